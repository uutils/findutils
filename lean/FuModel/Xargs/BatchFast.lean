import FuModel.Xargs.Batch
/-
`processInputR`: the same loop as `processInput` with the argument list of the
command under construction and the log of started commands kept in reverse, so
that the compiled driver handles hundreds of thousands of arguments.  It is
proved equal to `processInput` (`processInputR_eq`), so the driver may use it.
-/
namespace FuModel.Xargs

def finishR (logR : List (List Arg)) (status : Nat) : Run := ⟨logR.reverse, status⟩

def processInputR (cfg : Config) (init : LState) (rdErr : Bool) :
    LState → List Arg → Bool → Bool → List (List Arg) → List Outcome → List Arg → Run
  | _, extraR, pend, failed, logR, script, [] =>
    if rdErr then finishR logR 1
    else if !cfg.r || pend then
      let (o, _) := nextOutcome script
      match classify o with
      | .success => finishR (extraR.reverse :: logR) (if failed then 123 else 0)
      | .failure => finishR (extraR.reverse :: logR) 123
      | .fatal st => finishR (extraR.reverse :: logR) st
    else finishR logR (if failed then 123 else 0)
  | st, extraR, pend, failed, logR, script, a :: as =>
    match tryArg cfg.lim st a with
    | .ok st' => processInputR cfg init rdErr st' (a :: extraR) true failed logR script as
    | .error ooc =>
      if ooc && cfg.x && (cfg.lim.n.isSome || cfg.lim.l.isSome) then finishR logR 1
      else
        let flushed : Option (Bool × List (List Arg) × List Outcome) ⊕ Nat :=
          if pend then
            let (o, script') := nextOutcome script
            match classify o with
            | .success => .inl (some (failed, extraR.reverse :: logR, script'))
            | .failure => .inl (some (true, extraR.reverse :: logR, script'))
            | .fatal st => .inr st
          else .inl none
        match flushed with
        | .inr stt => finishR (extraR.reverse :: logR) stt
        | .inl fl =>
          let (failed', logR', script') := fl.getD (failed, logR, script)
          match tryArg cfg.lim init a with
          | .ok st' => processInputR cfg init rdErr st' [a] true failed' logR' script' as
          | .error _ => finishR logR' 1

theorem processInputR_eq (cfg : Config) (init : LState) (rdErr : Bool)
    (st : LState) (extraR : List Arg) (pend failed : Bool) (logR : List (List Arg))
    (script : List Outcome) (args : List Arg) :
    processInputR cfg init rdErr st extraR pend failed logR script args =
      processInput cfg init rdErr ⟨st, extraR.reverse⟩ pend failed logR.reverse script args := by
  induction args generalizing st extraR pend failed logR script with
  | nil =>
    simp only [processInputR, processInput, finishR]
    cases rdErr
    · cases !cfg.r || pend
      · rfl
      · cases classify (nextOutcome script).1 <;> simp
    · rfl
  | cons a as ih =>
    simp only [processInputR, processInput]
    cases tryArg cfg.lim st a with
    | ok st' => simp [ih]
    | error ooc =>
      simp only []
      cases ooc && cfg.x && (cfg.lim.n.isSome || cfg.lim.l.isSome)
      · cases pend
        · cases tryArg cfg.lim init a <;> simp [ih, finishR]
        · cases classify (nextOutcome script).1
          · cases tryArg cfg.lim init a <;> simp [ih, finishR]
          · cases tryArg cfg.lim init a <;> simp [ih, finishR]
          · simp [finishR]
      · rfl

end FuModel.Xargs
