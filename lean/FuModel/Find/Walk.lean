/-!
# The directory walk (`walkdir::IntoIter` as configured by `process_dir`, `src/find/mod.rs`)

`Node` is the part of the file system below one starting point, as the walk sees it:
a leaf (anything that is never descended into) or a directory with its listing; a symbolic
link that resolves to a directory is a `dir` with `isLink = true` carrying the listing it
resolves to (the correspondence harness materialises exactly that), `LeafKind` says what a
leaf link resolves to.  `α` is a payload (stat records …) the walk does not look at.

`step` is one iteration of `IntoIter::next`'s loop (`handle_entry`, `push`, `pop`,
`get_deferred_dir`, `skippable` branch for branch, with walkdir's separate `deferred_dirs`
stack); `loop` is `process_dir`'s `while let Some(result) = it.next()` around an abstract
evaluator (which may ask to prune or quit), including `WalkEntry::from_walkdir`'s conversion
of "not found" errors into entries for dangling links.
-/
namespace FuModel.Find.Walk

abbrev Name := List UInt8

inductive LeafKind where
  | plain          -- not a directory, not a symbolic link
  | linkFile       -- symbolic link resolving to a non-directory
  | linkDangling   -- symbolic link whose target does not exist
  | linkLoop       -- symbolic link resolving to an ancestor directory (a cycle when followed), or to itself (ELOOP)
  deriving DecidableEq, Repr

def LeafKind.isLink : LeafKind → Bool
  | .plain => false
  | _ => true

inductive Node (α : Type) where
  | leaf (name : Name) (k : LeafKind) (a : α)
  | dir (name : Name) (isLink : Bool) (readable : Bool) (a : α) (kids : List (Node α))
  deriving Repr

variable {α : Type}

def Node.name : Node α → Name
  | .leaf n _ _ => n
  | .dir n _ _ _ _ => n

mutual
def Node.size : Node α → Nat
  | .leaf _ _ _ => 1
  | .dir _ _ _ _ kids => 2 + sizeL kids
def sizeL : List (Node α) → Nat
  | [] => 0
  | n :: ns => n.size + sizeL ns
end

structure Opts where
  contentsFirst : Bool
  minDepth : Nat
  maxDepth : Nat
  followLinks : Bool     -- `follow_links`      (-L / -follow)
  followRoot : Bool      -- `follow_root_links` (-H or -L)
  deriving Repr

/-- `WalkDir::max_depth(M).min_depth(m)` with the setters' mutual clamping -/
def Opts.clamped (o : Opts) : Opts := { o with minDepth := if o.minDepth > o.maxDepth then o.maxDepth else o.minDepth }

/-- an entry as the walk yields it: the names below the starting point (outermost first), its
    depth, the node, and whether walkdir resolved it through a link (`DirEntry::follow_link`) -/
structure Ent (α : Type) where
  rpath : List Name        -- reversed: innermost name first
  depth : Nat
  node : Node α
  followed : Bool
  deriving Repr

inductive Item (α : Type) where
  | ok (e : Ent α)
  | notFound (e : Ent α)      -- dangling link met while following: error carrying path and depth
  | loopErr (e : Ent α)       -- link closing a directory cycle
  | readErr (rpath : List Name) (depth : Nat)   -- directory that cannot be listed
  deriving Repr

structure Frame (α : Type) where
  rpath : List Name
  kids : List (Node α)
  pendingErr : Bool          -- `read_dir` failed: the listing yields that error once, then ends
  deriving Repr

structure MState (α : Type) where
  start : Option (Node α)
  stack : List (Frame α)           -- innermost first
  deferred : List (Ent α)          -- `deferred_dirs`, innermost first
  deriving Repr

def MState.init (root : Node α) : MState α := ⟨some root, [], []⟩

def frameSize (f : Frame α) : Nat := sizeL f.kids + (if f.pendingErr then 1 else 0)

def stackSize : List (Frame α) → Nat
  | [] => 0
  | f :: fs => frameSize f + stackSize fs

/-- termination measure of the walk -/
def MState.mu (S : MState α) : Nat :=
  3 * stackSize S.stack + S.stack.length + S.deferred.length +
    (match S.start with | some n => 3 * n.size + 1 | none => 0)

def skippable (o : Opts) (depth : Nat) : Bool := decide (depth < o.minDepth) || decide (depth > o.maxDepth)

inductive Step (α : Type) where
  | yield (i : Item α) (S : MState α)
  | cont (S : MState α)
  | done

/-- the frame pushed for a directory (`push`): its listing, or the pending error when unreadable -/
def frameOf (rpath : List Name) (readable : Bool) (kids : List (Node α)) : Frame α :=
  if readable then ⟨rpath, kids, false⟩ else ⟨rpath, [], true⟩

/-- `handle_entry` for an entry at `depth` (the current `self.depth`), given the machine state
    from which the entry has already been taken -/
def handleEntry (o : Opts) (S : MState α) (rpath : List Name) (depth : Nat) (n : Node α) : Step α :=
  match n with
  | .leaf _ k _ =>
    if o.followLinks && k.isLink then
      -- `follow`: re-stat through the link
      match k with
      | .linkDangling => .yield (.notFound ⟨rpath, depth, n, true⟩) S
      | .linkLoop => .yield (.loopErr ⟨rpath, depth, n, true⟩) S
      | _ => if skippable o depth then .cont S else .yield (.ok ⟨rpath, depth, n, true⟩) S
    else if depth == 0 && o.followRoot && k == .linkDangling then
      -- root link, `fs::metadata` fails: not found
      .yield (.notFound ⟨rpath, depth, n, false⟩) S
    else if depth == 0 && o.followRoot && k == .linkLoop then
      -- root link, `fs::metadata` fails: too many levels of symbolic links
      .yield (.loopErr ⟨rpath, depth, n, false⟩) S
    else if skippable o depth then .cont S else .yield (.ok ⟨rpath, depth, n, false⟩) S
  | .dir _ isLink readable _ kids =>
    if !isLink || o.followLinks then
      -- a normal directory (possibly reached through a followed link): push, then defer or yield
      let S' := { S with stack := frameOf rpath readable kids :: S.stack }
      let e : Ent α := ⟨rpath, depth, n, isLink⟩
      if o.contentsFirst then .cont { S' with deferred := e :: S'.deferred }
      else if skippable o depth then .cont S' else .yield (.ok e) S'
    else if depth == 0 && o.followRoot then
      -- a starting point that is a link to a directory, followed only because it is one (-H): its
      -- listing is pushed.  walkdir alone would report it at once even under `contents_first`
      -- (its bookkeeping of deferred directories is then off by one); `process_dir` therefore
      -- walks `LINK/` in that configuration, which walkdir sees as the directory itself, and
      -- reports the starting point under its own spelling: deferred like any directory
      let S' := { S with stack := frameOf rpath readable kids :: S.stack }
      let e : Ent α := ⟨rpath, depth, n, false⟩
      if o.contentsFirst then .cont { S' with deferred := e :: S'.deferred }
      else if skippable o depth then .cont S' else .yield (.ok e) S'
    else
      -- a link to a directory that is not followed: an entry like any other
      if skippable o depth then .cont S else .yield (.ok ⟨rpath, depth, n, false⟩) S

/-- one iteration of `IntoIter::next` -/
def step (o : Opts) (S : MState α) : Step α :=
  match S.start with
  | some root => handleEntry o { S with start := none } [] 0 root
  | none =>
    match S.stack with
    | [] =>
      -- after the loop: `if contents_first { depth = 0; get_deferred_dir }`
      if o.contentsFirst then
        match S.deferred with
        | d :: ds => if skippable o 0 then .done else .yield (.ok d) { S with deferred := ds }
        | [] => .done
      else .done
    | f :: fs =>
      let depth := S.stack.length
      -- get_deferred_dir
      if o.contentsFirst && decide (depth < S.deferred.length) then
        match S.deferred with
        | d :: ds => if skippable o depth then .cont { S with deferred := ds } else .yield (.ok d) { S with deferred := ds }
        | [] => .cont S   -- impossible
      else if depth > o.maxDepth then .cont { S with stack := fs }
      else if f.pendingErr then .yield (.readErr f.rpath (depth - 1)) { S with stack := { f with pendingErr := false } :: fs }
      else
        match f.kids with
        | [] => .cont { S with stack := fs }
        | n :: ns => handleEntry o { S with stack := { f with kids := ns } :: fs } (n.name :: f.rpath) depth n

/-- `skip_current_dir` -/
def skipCurrent (S : MState α) : MState α :=
  match S.stack with
  | [] => S
  | _ :: fs => { S with stack := fs }

/-! ### `process_dir` -/

inductive Follow where | never | roots | always
  deriving DecidableEq, Repr

/-- what find evaluates its expression on (`WalkEntry`) -/
structure Visit (α : Type) where
  ent : Ent α
  explicit : Bool       -- `Entry::Explicit` (followed roots, dangling links)
  follow : Follow       -- the follow mode recorded in the entry (`never` for converted dangling links)
  deriving Repr

structure EvalOut where
  prune : Bool
  quit : Bool
  exit : Nat
  deriving Repr

/-- `WalkEntry::from_walkdir`: `none` = the error is reported (diagnostic, status 1) -/
def toVisit (follow : Follow) : Item α → Option (Visit α)
  | .ok e => some ⟨e, e.depth == 0 && follow != .never, follow⟩
  | .notFound e => some ⟨e, true, .never⟩
  | .loopErr _ => none
  | .readErr _ _ => none

structure Res (σ : Type) where
  st : σ
  ret : Nat
  quit : Bool
  diags : Nat
  deriving Repr

theorem sizeL_pos_le (n : Node α) : 1 ≤ n.size := by cases n <;> simp [Node.size] <;> omega

theorem frameOf_cost (rp : List Name) (r : Bool) (kids : List (Node α)) : frameSize (frameOf rp r kids) ≤ sizeL kids + 1 := by
  unfold frameOf frameSize; cases r <;> simp [sizeL]

/-- the state a step leaves behind, unless it is the last -/
def Step.next? : Step α → Option (MState α)
  | .yield _ S => some S
  | .cont S => some S
  | .done => none

theorem next?_ite (c : Prop) [Decidable c] (a b : Step α) : (if c then a else b).next? = if c then a.next? else b.next? :=
  apply_ite _ _ _ _
theorem next?_yield (i : Item α) (S : MState α) : (Step.yield i S).next? = some S := rfl
theorem next?_cont (S : MState α) : (Step.cont S).next? = some S := rfl
theorem next?_done : (Step.done : Step α).next? = none := rfl

theorem handleEntry_mu (o : Opts) (S : MState α) (rp : List Name) (d : Nat) (n : Node α) (hs : S.start = none) :
    ∀ S' ∈ (handleEntry o S rp d n).next?, S'.mu + 1 ≤ S.mu + 3 * n.size := by
  cases n with
  | leaf nm k a =>
    -- whatever is reported, the state is left as it is
    have : (handleEntry o S rp d (.leaf nm k a)).next? = some S := by
      cases k <;> simp only [handleEntry, next?_ite, next?_yield, next?_cont, ite_self]
    rw [this]
    rintro _ ⟨⟩
    simp only [Node.size]
    omega
  | dir nm l r a kids =>
    -- the state as it is, or with the listing pushed, or with that and the directory deferred
    have hc := frameOf_cost rp r kids
    simp only [handleEntry, next?_ite, next?_yield, next?_cont, ite_self, Node.size]
    cases (!l || o.followLinks) <;> cases o.contentsFirst <;> cases (d == 0 && o.followRoot) <;>
      rintro _ ⟨⟩ <;> simp only [MState.mu, hs, stackSize, List.length_cons] <;> omega

theorem step_next_mu (o : Opts) (S : MState α) : ∀ S' ∈ (step o S).next?, S'.mu < S.mu := by
  obtain ⟨start, stack, deferred⟩ := S
  cases start with
  | some root =>
    intro S' h
    have := handleEntry_mu o (⟨none, stack, deferred⟩ : MState α) [] 0 root rfl S' h
    simp only [MState.mu] at this ⊢
    omega
  | none =>
    cases stack with
    | nil =>
      cases deferred with
      | nil => simp only [step, ite_self]; rintro _ ⟨⟩
      | cons d ds =>
        simp only [step, next?_ite, next?_yield, next?_done]
        cases o.contentsFirst <;> cases skippable o 0 <;> rintro _ ⟨⟩
        simp only [MState.mu, List.length_cons]; omega
    | cons f fs =>
      obtain ⟨frp, kids, perr⟩ := f
      simp only [step]
      cases hdue : o.contentsFirst && decide ((⟨frp, kids, perr⟩ :: fs).length < deferred.length)
      · -- no deferred directory is due: the listing on top is dropped, or gives its error or its next entry
        simp only [Bool.false_eq_true, if_false, next?_ite, next?_yield]
        by_cases hmax : (⟨frp, kids, perr⟩ :: fs).length > o.maxDepth
        · rw [if_pos hmax]; rintro _ ⟨⟩; simp only [MState.mu, stackSize, List.length_cons]; omega
        · rw [if_neg hmax]
          cases perr
          · cases kids with
            | nil => rintro _ ⟨⟩; simp only [MState.mu, stackSize, List.length_cons]; omega
            | cons n ns =>
              intro S' h
              have := handleEntry_mu o ⟨none, ⟨frp, ns, false⟩ :: fs, deferred⟩ (n.name :: frp) (fs.length + 1) n rfl S' h
              simp only [MState.mu, stackSize, frameSize, sizeL, List.length_cons] at this ⊢
              omega
          · rintro _ ⟨⟩; simp [MState.mu, stackSize, frameSize]
      · cases deferred with
        | nil => simp at hdue
        | cons d ds =>
          simp only [if_true, next?_ite, next?_yield, next?_cont, ite_self]
          rintro _ ⟨⟩; simp only [MState.mu, List.length_cons]; omega

theorem step_mu (o : Opts) (S : MState α) :
    (∀ S', step o S = .cont S' → S'.mu < S.mu) ∧ (∀ i S', step o S = .yield i S' → S'.mu < S.mu) :=
  ⟨fun S' h => step_next_mu o S S' (by rw [h]; rfl), fun i S' h => step_next_mu o S S' (by rw [h]; rfl)⟩

theorem skipCurrent_mu (S : MState α) : (skipCurrent S).mu ≤ S.mu := by
  unfold skipCurrent
  split
  · exact Nat.le_refl _
  · rename_i f fs h; simp only [MState.mu, h, stackSize, List.length_cons]; omega

/-- the `while let Some(result) = it.next()` loop of `process_dir` around an evaluator -/
def loop {σ : Type} (o : Opts) (follow : Follow) (ev : Visit α → σ → EvalOut × σ)
    (S : MState α) (acc : σ) (ret diags : Nat) : Res σ :=
  match h : step o S with
  | .done => ⟨acc, ret, false, diags⟩
  | .cont S' => loop o follow ev S' acc ret diags
  | .yield i S' =>
    match toVisit follow i with
    | none => loop o follow ev S' acc 1 (diags + 1)
    | some v =>
      let r := ev v acc
      let ret' := if r.1.exit = 0 then ret else r.1.exit
      if r.1.quit then ⟨r.2, ret', true, diags⟩
      else if r.1.prune then
        have : (skipCurrent S').mu < S.mu := Nat.lt_of_le_of_lt (skipCurrent_mu S') ((step_mu o S).2 i S' h)
        loop o follow ev (skipCurrent S') r.2 ret' diags
      else loop o follow ev S' r.2 ret' diags
termination_by S.mu
decreasing_by
  all_goals first
    | exact (step_mu o S).1 _ h
    | exact (step_mu o S).2 _ _ h
    | assumption

/-! ### how `process_dir` configures and guards the walk -/

/-- what the reference is parametrised by -/
structure RefCfg where
  depthFirst : Bool
  minDepth : Nat
  maxDepth : Nat
  follow : Follow
  deriving Repr

def inRange (c : RefCfg) (d : Nat) : Bool := decide (c.minDepth ≤ d) && decide (d ≤ c.maxDepth)

/-- `WalkDir::new(dir).contents_first(..).max_depth(..).min_depth(..).follow_links(..).follow_root_links(..)` -/
def optsOf (c : RefCfg) : Opts :=
  ({ contentsFirst := c.depthFirst, minDepth := c.minDepth, maxDepth := c.maxDepth,
     followLinks := c.follow == .always, followRoot := c.follow != .never } : Opts).clamped

/-- the evaluator as `process_dir` applies it: entries outside [mindepth, maxdepth] are not
    evaluated, and a prune mark is acted upon only in pre-order -/
def guardEv {σ : Type} (c : RefCfg) (ev : Visit α → σ → EvalOut × σ) : Visit α → σ → EvalOut × σ :=
  fun v s =>
    if inRange c v.ent.depth then
      let r := ev v s
      (if c.depthFirst then { r.1 with prune := false } else r.1, r.2)
    else (⟨false, false, 0⟩, s)

/-- `process_dir` for a starting point that exists -/
def processRoot {σ : Type} (c : RefCfg) (ev : Visit α → σ → EvalOut × σ) (root : Node α) (acc : σ) : Res σ :=
  loop (optsOf c) c.follow (guardEv c ev) (MState.init root) acc 0 0

end FuModel.Find.Walk
