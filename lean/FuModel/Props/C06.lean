import FuModel.Props.C04
import FuModel.Proofs.XargsExec

/-!
# C06 — xargs never builds a command line the operating system rejects

`execAccepts` is the model of the Linux `execve` limits (`ExecLimit.lean`; an
assumption about the kernel that the harness validates against the real kernel
on every run).  The theorems say: with the system limiter configured as
`new_system` does (budget `ARG_MAX - 2048 - environment`, environment counted
with one pointer per variable, one pointer charged per argument, single
arguments capped at `MAX_ARG_STRLEN`), every command `process_input` starts is
accepted, whatever the number and sizes of the arguments, the environment and
the stack limit behind `ARG_MAX`; and an argument above the cap ends the run
with a non-success status without ever being handed to a command.
-/
namespace FuModel.Xargs

/-- Every command line xargs builds is accepted by exec. -/
theorem C06_accepted (cfg : Config) (cmd : List (List UInt8)) (init : LState)
    (envp : List (List UInt8)) (argMax : Nat) (file : List UInt8)
    (script : List Outcome) (args : List Arg)
    (hsys : cfg.lim.sys = sysBudget argMax (envp.map List.length))
    (hptr : cfg.lim.ptr = 8) (hmax : cfg.lim.maxArg = 131072)
    (hroom : 2048 + (strCostL (envp.map List.length) + 8 * envp.length) ≤ argMax)
    (hfile : file.length + 1 ≤ 2048)
    (henv : ∀ e ∈ envp, e.length + 1 ≤ 131072)
    (hcmd : cmd ≠ [])
    (hinit : initState cfg.lim LState.zero cmd = some init)
    (hkind : ∀ a ∈ args, a.kind ≠ .initial) :
    ∀ b ∈ (processInput cfg init false ⟨init, []⟩ false false [] script args).batches,
      execAccepts argMax file (cmd ++ b.map (·.bytes)) envp = true := by
  intro b hb
  obtain ⟨st, hst⟩ := Option.isSome_iff_exists.1 (C04_limits cfg init script args b hb)
  have := execAccepts_of_chain cfg.lim envp argMax file (cmd.map (⟨·, .initial⟩) ++ b) st
    hsys hptr hmax hroom hfile henv (by simpa using fun h => absurd h hcmd)
    (by rw [foldTry_append, ← initState_eq_foldTry, hinit]; exact hst)
  simpa [Function.comp_def] using this

/-- An argument too large to be passed is never handed to exec, and the run cannot
    end with a success status (it is reported: status 1, or a child's fatal status first). -/
theorem C06_oversize_reported (cfg : Config) (init : LState) (script : List Outcome)
    (args : List Arg) (a : Arg) (ha : a ∈ args) (hk : a.kind ≠ .initial)
    (hbig : cfg.lim.maxArg < cost a.bytes) :
    let run := processInput cfg init false ⟨init, []⟩ false false [] script args
    (run.status ≠ 0 ∧ run.status ≠ 123) ∧ ∀ b ∈ run.batches, a ∉ b := by
  intro run
  have hnofit : fitsB cfg.lim init [a] = false :=
    Bool.eq_false_iff.2 fun h => Nat.not_le_of_lt hbig ((fitsB_singleton_iff _ _ _).1 h).2.2.2.1
  refine ⟨C04_too_large cfg init script args a ha hnofit, fun b hb hab => ?_⟩
  have := fitsB_singleton_of_mem (C04_limits cfg init script args b hb) hab
  rw [hnofit] at this
  cases this

/-- the budget xargs derives from `sysconf(_SC_ARG_MAX)` is the kernel's own limit -/
theorem C06_argmax_is_kernel_limit (stack : Nat) : sysconfArgMax stack = kernelLimit stack := rfl

/-- **Replace mode (-I).**  `execute` passes the command after substitution through the limiter
    chain afresh, from the empty state; whatever passes is accepted by exec - however many
    occurrences were replaced and however long the line is. -/
theorem C06_replace_accepted (lim : Limits) (sub : List (List UInt8)) (init : LState)
    (envp : List (List UInt8)) (argMax : Nat) (file : List UInt8)
    (hsys : lim.sys = sysBudget argMax (envp.map List.length))
    (hptr : lim.ptr = 8) (hmax : lim.maxArg = 131072)
    (hroom : 2048 + (strCostL (envp.map List.length) + 8 * envp.length) ≤ argMax)
    (hfile : file.length + 1 ≤ 2048)
    (henv : ∀ e ∈ envp, e.length + 1 ≤ 131072)
    (hne : sub ≠ [])
    (hinit : initState lim LState.zero sub = some init) :
    execAccepts argMax file sub envp = true := by
  have := execAccepts_of_chain lim envp argMax file (sub.map (⟨·, .initial⟩)) init
    hsys hptr hmax hroom hfile henv (by simpa using hne) (by rw [← initState_eq_foldTry, hinit])
  simpa [Function.comp_def] using this

/-- **Replace mode, whole run.**  With the system limiter as `new_system` configures it, every
    command `xargs -I R CMD …` starts - for every input, every number of occurrences of R, every
    `-s` - is accepted by exec (the model of the kernel's limits): the re-check of the substituted
    command in `execute` cuts the run before the first one that would not be. -/
theorem C06_replace_main (opts : List Opt) (cmd : List (List UInt8)) (input : List UInt8)
    (script : List Outcome) (R : List UInt8) (hR : (normalize opts).replace = some R)
    (envp : List (List UInt8)) (argMax : Nat) (file : List UInt8)
    (hroom : 2048 + (strCostL (envp.map List.length) + 8 * envp.length) ≤ argMax)
    (hfile : file.length + 1 ≤ 2048)
    (henv : ∀ e ∈ envp, e.length + 1 ≤ 131072)
    (hcmd : cmd ≠ []) :
    ∀ av ∈ (xargsMain opts cmd input script (sysBudget argMax (envp.map List.length))).argvs,
      execAccepts argMax file av envp = true := by
  obtain ⟨lim, hsys, hptr, hmax, _, h⟩ := main_replace_fits opts cmd input script (sysBudget argMax (envp.map List.length)) R hR
  intro av hav
  obtain ⟨b, rfl, hb⟩ := h av hav
  unfold substFits at hb
  obtain ⟨init, hinit⟩ := Option.isSome_iff_exists.mp hb
  refine C06_replace_accepted lim _ init envp argMax file hsys hptr hmax hroom hfile henv ?_ hinit
  cases cmd with
  | nil => exact absurd rfl hcmd
  | cons p ps => simp [argvOf]

/-! Non-vacuity: a concrete configuration that meets the hypotheses of `C06_accepted`. -/
example :
    let lim : Limits := ⟨none, none, none, sysBudget 131072 [20, 30], 8, 131072⟩
    initState lim LState.zero [[99, 109, 100]] = some ⟨0, 1, 4, 12⟩ ∧
    2048 + (strCostL [20, 30] + 8 * 2) ≤ 131072 := by decide +kernel

end FuModel.Xargs
