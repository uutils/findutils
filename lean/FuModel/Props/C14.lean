import FuModel.Proofs.Numeric

/-!
# C14 — numeric operands: N / +N / -N trichotomy and -size unit rounding

Lemmas in `Proofs/Numeric.lean`; the model is
`Find/Numeric.lean`, mirroring `ComparableValue::{matches,imatches}`,
`convert_arg_to_comparable_value(_and_suffix)`, `Unit::from_str` and
`byte_size_to_unit_size`.
-/
namespace FuModel.Find

/-- The forms mean what the property says: equal, greater, less. -/
theorem C14_meaning (n v : Nat) :
    ((Cmp.eq n).matches v ↔ v = n) ∧ ((Cmp.more n).matches v ↔ v > n) ∧ ((Cmp.less n).matches v ↔ v < n) := by
  simp [Cmp.matches]

/-- The same for the signed reading used by the age tests (-atime … -mmin), for every
    integer age, negative ones included. -/
theorem C14_meaning_signed (n : Nat) (v : Int) :
    ((Cmp.eq n).imatches v ↔ v = n) ∧ ((Cmp.more n).imatches v ↔ v > n) ∧ ((Cmp.less n).imatches v ↔ v < n) := by
  simp only [Cmp.imatches, Bool.and_eq_true, Bool.or_eq_true, decide_eq_true_eq]
  omega

/-- Exactly one of `N`, `+N`, `-N` holds of every measured value (unsigned tests:
    -size, -links, -inum, -uid, -gid). -/
theorem C14_trichotomy (n v : Nat) :
    ((Cmp.more n).matches v ∧ ¬ (Cmp.eq n).matches v ∧ ¬ (Cmp.less n).matches v) ∨
    (¬ (Cmp.more n).matches v ∧ (Cmp.eq n).matches v ∧ ¬ (Cmp.less n).matches v) ∨
    (¬ (Cmp.more n).matches v ∧ ¬ (Cmp.eq n).matches v ∧ (Cmp.less n).matches v) := by
  simp only [C14_meaning]
  omega

theorem C14_trichotomy_signed (n : Nat) (v : Int) :
    ((Cmp.more n).imatches v ∧ ¬ (Cmp.eq n).imatches v ∧ ¬ (Cmp.less n).imatches v) ∨
    (¬ (Cmp.more n).imatches v ∧ (Cmp.eq n).imatches v ∧ ¬ (Cmp.less n).imatches v) ∨
    (¬ (Cmp.more n).imatches v ∧ ¬ (Cmp.eq n).imatches v ∧ (Cmp.less n).imatches v) := by
  simp only [C14_meaning_signed]
  omega

/-- `+N` is antitone and `-N` monotone in `N`. -/
theorem C14_monotone (n n' v : Nat) (h : n ≤ n') :
    ((Cmp.more n').matches v → (Cmp.more n).matches v) ∧
    ((Cmp.less n).matches v → (Cmp.less n').matches v) := by
  simp only [C14_meaning]
  omega

theorem C14_monotone_signed (n n' : Nat) (v : Int) (h : n ≤ n') :
    ((Cmp.more n').imatches v → (Cmp.more n).imatches v) ∧
    ((Cmp.less n).imatches v → (Cmp.less n').imatches v) := by
  simp only [C14_meaning_signed]
  omega

/-- The operand parser accepts exactly `[+-]?` followed by one or more ASCII digits whose
    value fits 64 bits, and reads it as the sign's form of that value. -/
theorem C14_parse (s : List Char) (c : Cmp) :
    parseCmp s = some c ↔
      ∃ (sg : Sign) (ds : List Char), s = sg.chars ++ ds ∧ ds ≠ [] ∧ (∀ d ∈ ds, isAsciiDigit d = true) ∧
        decVal ds < 2 ^ 64 ∧ c = sg.mk (decVal ds) := by
  simp only [parseCmp, Option.ite_none_right_eq_some, Option.some.injEq, Bool.and_eq_true, Bool.not_eq_true',
    List.isEmpty_eq_false_iff, List.all_eq_true, decide_eq_true_eq, and_assoc]
  constructor
  · intro h
    exact ⟨_, _, splitSign_chars s, h.1, h.2.1, h.2.2.1, h.2.2.2.symm⟩
  · rintro ⟨sg, ds, rfl, hne, hd, hv, rfl⟩
    obtain ⟨d, r, rfl⟩ := List.exists_cons_of_ne_nil hne
    rw [splitSign_digit sg (hd d (.head _))]
    exact ⟨hne, hd, hv, rfl⟩

/-- `-size` operands: the same sign/digits reading followed by exactly one of the unit
    suffixes, which selects the unit 2^k bytes. -/
theorem C14_parse_size (s : List Char) (c : Cmp) (k : Nat) :
    parseSize s = some (c, k) ↔
      ∃ (sg : Sign) (ds suf : List Char), s = sg.chars ++ ds ++ suf ∧ ds ≠ [] ∧ (∀ d ∈ ds, isAsciiDigit d = true) ∧
        (∀ d, suf.head? = some d → isAsciiDigit d = false) ∧
        decVal ds < 2 ^ 64 ∧ c = sg.mk (decVal ds) ∧ unitShift suf = some k := by
  constructor
  · intro h
    simp only [parseSize, Option.ite_none_right_eq_some, Bool.and_eq_true, Bool.not_eq_true',
      List.isEmpty_eq_false_iff, decide_eq_true_eq] at h
    obtain ⟨⟨hne, hv⟩, h⟩ := h
    split at h
    · rename_i hk
      cases h
      refine ⟨_, _, _, ?_, hne, List.all_eq_true.mp List.all_takeWhile, fun d hd => ?_, hv, rfl, hk⟩
      · rw [List.append_assoc, List.takeWhile_append_dropWhile]; exact splitSign_chars s
      · have := List.head?_dropWhile_not isAsciiDigit (splitSign s).2
        rwa [hd] at this
    · cases h
  · rintro ⟨sg, ds, suf, rfl, hne, hd, hs, hv, rfl, hk⟩
    obtain ⟨ht, hdw⟩ := takeWhile_stop isAsciiDigit ds suf hd hs
    obtain ⟨d, r, rfl⟩ := List.exists_cons_of_ne_nil hne
    simp only [parseSize, List.append_assoc, List.cons_append, splitSign_digit sg (hd d (.head _))]
    rw [← List.cons_append, ht, hdw, hk]
    simp [show decVal (d :: r) < u64Bound from hv]

/-- The unit table: c=1, w=2, b or nothing=512, k=2^10, M=2^20, G=2^30 bytes. -/
theorem C14_units :
    (unitShift ['c']).map (2 ^ ·) = some 1 ∧ (unitShift ['w']).map (2 ^ ·) = some 2 ∧
    (unitShift ['b']).map (2 ^ ·) = some 512 ∧ (unitShift []).map (2 ^ ·) = some 512 ∧
    (unitShift ['k']).map (2 ^ ·) = some (2 ^ 10) ∧ (unitShift ['M']).map (2 ^ ·) = some (2 ^ 20) ∧
    (unitShift ['G']).map (2 ^ ·) = some (2 ^ 30) := by
  decide

/-- The measured size is the byte size divided by the unit, rounded up; no intermediate
    value exceeds the byte size (so 64-bit arithmetic never wraps). -/
theorem C14_unit_size (k b : Nat) :
    unitSize k b = (b + 2 ^ k - 1) / 2 ^ k ∧ unitSize k b ≤ b :=
  ⟨unitSize_eq_ceil k b, unitSize_le k b⟩

/-- Characterisation by whole units: the value is `q` iff `(q-1)·unit < bytes ≤ q·unit`. -/
theorem C14_unit_size_iff (k b q : Nat) (hq : 0 < q) :
    unitSize k b = q ↔ (q - 1) * 2 ^ k < b ∧ b ≤ q * 2 ^ k := by
  cases q with
  | zero => cases hq
  | succ q =>
    have hp := Nat.two_pow_pos k
    rw [unitSize_eq, Nat.succ_mul, Nat.add_sub_cancel]
    generalize 2 ^ k = P at hp ⊢
    split
    · omega
    · rw [Nat.add_right_cancel_iff, Nat.div_eq_iff hp]; omega

/-- `-size -1k` matches only empty files; `-size 1M` matches sizes 1 … 2^20. -/
theorem C14_size_lt_1k_iff_empty (b : Nat) : sizeMatches (.less 1) 10 b ↔ b = 0 :=
  size_lt_one_iff 10 b

theorem C14_size_eq_1M_iff (b : Nat) : sizeMatches (.eq 1) 20 b ↔ 1 ≤ b ∧ b ≤ 2 ^ 20 := by
  have := C14_unit_size_iff 20 b 1 (by omega)
  simp only [sizeMatches, C14_meaning]
  omega

/-- Non-vacuity: concrete operands and sizes. -/
example : parseCmp "+10".toList = some (.more 10) ∧ parseSize "-3M".toList = some (.less 3, 20) ∧
    parseCmp "18446744073709551616".toList = none ∧ parseSize "abc10k".toList = none ∧
    unitSize 10 1025 = 2 ∧ unitSize 10 1024 = 1 ∧ unitSize 30 0 = 0 := by decide +kernel

end FuModel.Find
