import FuModel.Find.Time
import FuModel.Props.C14

/-!
# C15 — time tests: whole elapsed periods, strict -newer, -newerXY uses X and Y

Model: `Find/Time.lean` (mirrors `FileTimeMatcher`, `FileAgeRangeMatcher`, `NewerMatcher`,
`NewerOptionMatcher`).  Timestamps are nanosecond counts.
-/
namespace FuModel.Find

theorem ageUnits_nonneg (period : Nat) (now t : Int) (h : t ≤ now) :
    ageUnits period now t = (((now - t).toNat / (period * 1000000000) : Nat) : Int) := by
  unfold ageUnits
  simp only [ge_iff_le, h, if_true, nsPerSec]
  rw [← Int.ofNat_tdiv, Nat.div_div_eq_div_mul, Nat.mul_comm]

/-- `-mtime`, `-atime`, `-ctime` N compare N with the number of complete 24-hour periods in
    (now - timestamp): the floor of the nanosecond difference over 86400·10⁹, for every
    nanosecond value. -/
theorem C15_days (now t : Int) (h : t ≤ now) :
    ageUnits 86400 now t = (((now - t).toNat / (86400 * 1000000000) : Nat) : Int) :=
  ageUnits_nonneg 86400 now t h

/-- `-mmin`, `-amin`, `-cmin` likewise with complete minutes. -/
theorem C15_minutes (now t : Int) (h : t ≤ now) :
    ageUnits 60 now t = (((now - t).toNat / (60 * 1000000000) : Nat) : Int) :=
  ageUnits_nonneg 60 now t h

/-- Stated on the boundary the property singles out: with k complete periods and a
    remainder r < period, the age is exactly k (so k·period - ε gives k-1, k·period and
    k·period + ε give k). -/
theorem C15_boundary (periodSecs k r : Nat) (now t : Int) (hp : 0 < periodSecs)
    (hr : r < periodSecs * 1000000000) (hd : now - t = ((k * (periodSecs * 1000000000) + r : Nat) : Int)) :
    ageUnits periodSecs now t = k := by
  have hle : t ≤ now := by omega
  rw [ageUnits_nonneg _ _ _ hle, hd]
  simp only [Int.toNat_natCast]
  have hpos : 0 < periodSecs * 1000000000 := Nat.mul_pos hp (by decide)
  rw [Nat.mul_comm k, Nat.mul_add_div hpos, Nat.div_eq_of_lt hr]
  simp

/-- The comparison with N is the N, +N, -N reading of that number of periods. -/
theorem C15_forms (period n p : Nat) (now t : Int) (h : t ≤ now)
    (hp : p = (now - t).toNat / (period * 1000000000)) :
    (ageMatches (.eq n) period now t ↔ p = n) ∧ (ageMatches (.more n) period now t ↔ p > n) ∧
    (ageMatches (.less n) period now t ↔ p < n) := by
  simp only [ageMatches, ageUnits_nonneg _ _ _ h, ← hp, Cmp.imatches_natCast]
  exact C14_meaning n p

/-- Each test reads its own timestamp. -/
theorem C15_kinds (c : Cmp) (period : Nat) (now : Int) (e : Times) :
    ageTest .a c period now e = ageMatches c period now e.atime ∧
    ageTest .c c period now e = ageMatches c period now e.ctime ∧
    ageTest .m c period now e = ageMatches c period now e.mtime := ⟨rfl, rfl, rfl⟩

/-- `-newer F`: strictly later modification time, at nanosecond resolution. -/
theorem C15_newer_strict (e f : Times) : newer e f ↔ e.mtime > f.mtime := by
  simp [newer, isLater]

/-- `-newerXY F`: the entry's X timestamp strictly later than F's Y timestamp. -/
theorem C15_newerXY (x y : TKind) (e f : Times) : newerXY x y e f ↔ e.get x > f.get y := by
  simp [newerXY, isLater]

/-- `-anewer` = `-neweram`, `-cnewer` = `-newercm`, `-newer` = `-newermm`. -/
theorem C15_aliases :
    newerArgs "-anewer" = newerArgs "-neweram" ∧ newerArgs "-cnewer" = newerArgs "-newercm" ∧
    newerArgs "-newer" = newerArgs "-newermm" ∧ newerArgs "-neweram" = some (.a, .m) ∧
    newerArgs "-newerca" = some (.c, .a) := by decide +kernel

theorem C15_newer_is_mm (e f : Times) : newer e f = newerXY .m .m e f := rfl

/-- Non-vacuity: one nanosecond short of a day is 0 days, a full day is 1; equal times are not newer;
    X and Y both matter (three distinct timestamps). -/
example : ageUnits 86400 (86400 * 1000000000 - 1) 0 = 0 ∧ ageUnits 86400 (86400 * 1000000000) 0 = 1 ∧
    newer ⟨0, 0, 5⟩ ⟨0, 0, 5⟩ = false ∧ newer ⟨0, 0, 6⟩ ⟨0, 0, 5⟩ = true ∧
    newerXY .a .c ⟨10, 0, 0⟩ ⟨99, 5, 99⟩ = true ∧ newerXY .a .c ⟨10, 99, 99⟩ ⟨0, 10, 0⟩ = false := by decide

end FuModel.Find
