import FuModel.Proofs.RegexSound

/-!
# C17 — property theorems (proofs in `Proofs/RegexSound.lean`)

* `C17_sound` — if `-regex` / `-iregex` is true the pattern matches the path from its first to its
  last character (never a prefix or substring), for every pattern, path and case mode;
* `C17_first_is_not_whole`, `C17_alt_order` — machine-checked witnesses that the converse fails for
  model and code alike (the engine reports its first match): the property's known finding;
* `C17_regextype_positional` — the syntax in force is that of the nearest preceding `-regextype`;
* `C17_spec_sound` — the executable language specification that serves as predicate of the
  correspondence runs only accepts strings the inductive language `Matches` contains.
-/
namespace FuModel.Find.Regex

/-- the predicate's "in the language" implies the relation the theorems are stated with -/
theorem C17_spec_sound (icase : Bool) (r : Re) (s : List Char)
    (h : FuModel.Spec.RegexLang.member icase r s = true) : Matches icase s r 0 s.length := by
  simpa using inLang_matches icase _ r s h s 0 (by simp)

end FuModel.Find.Regex
