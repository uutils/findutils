import FuModel.Find.StartPoints
import FuModel.Proofs.OutWalk

/-!
# C18 — starting points: processed in order, spelled as given, isolated on error

Model: `Find/StartPoints.lean` (`parse_args`' flag and operand scan, `parse_files0_args`),
`Find/Run.lean` (`do_find`'s loop, the path construction of the walk).
-/
namespace FuModel.Find.Run
open FuModel.Find.Walk FuModel.Find.Expr

/-! ### -files0-from -/

/-- a NUL-free stretch is collected into the current segment -/
theorem splitNul_append (cur n rest : Bytes) (h : ∀ b ∈ n, b ≠ 0) :
    splitNul cur (n ++ rest) = splitNul (n.reverse ++ cur) rest := by
  induction n generalizing cur with
  | nil => rfl
  | cons b bs ih =>
    have hb : (b == 0) = false := by simpa using h b (by simp)
    rw [List.cons_append, splitNul, hb, if_neg Bool.false_ne_true, ih _ fun x hx => h x (by simp [hx])]
    simp

/-- names each followed by a NUL, then a last name (possibly empty) without one -/
theorem splitNul_flat (names : List Bytes) (last : Bytes) (h : ∀ n ∈ names, ∀ b ∈ n, b ≠ 0) (hl : ∀ b ∈ last, b ≠ 0) :
    splitNul [] (names.flatMap (· ++ [0]) ++ last) = names ++ [last] := by
  induction names with
  | nil => simpa [splitNul] using splitNul_append [] last [] hl
  | cons n ns ih =>
    rw [List.flatMap_cons, List.append_assoc, List.append_assoc, splitNul_append _ n _ (h n (by simp))]
    simp [splitNul, ih fun m hm => h m (by simp [hm])]

/-- both forms of the file at once: the segment after the last NUL is dropped if it is empty and is
    a name of its own if it is not -/
theorem files0_flat (names : List Bytes) (last : Bytes) (h : ∀ n ∈ names, n ≠ [] ∧ ∀ b ∈ n, b ≠ 0) (hl : ∀ b ∈ last, b ≠ 0) :
    files0 (names.flatMap (· ++ [0]) ++ last) = (names ++ (if last = [] then [] else [last]), false) := by
  have key : ∀ L : List Bytes, (∀ n ∈ L, n ≠ []) → (L.filter (!·.isEmpty), L.any (·.isEmpty)) = (L, false) := fun L hL =>
    Prod.ext (List.filter_eq_self.2 fun n hn => by simpa using hL n hn) (List.any_eq_false.2 fun n hn => by simpa using hL n hn)
  unfold files0
  rw [splitNul_flat names last (fun n hn => (h n hn).2) hl]
  cases last with
  | nil =>
    simp only [List.getLast?_concat, beq_self_eq_true, if_true, List.dropLast_concat, List.append_nil]
    exact key names fun n hn => (h n hn).1
  | cons x xs =>
    have : (some (x :: xs) == some ([] : Bytes)) = false := by simp
    simp only [List.getLast?_concat, this, Bool.false_eq_true, if_false, reduceCtorEq]
    exact key _ fun n hn => (List.mem_append.1 hn).elim (fun hn => (h n hn).1) fun hn => by
      rw [List.mem_singleton.1 hn]; exact List.cons_ne_nil _ _

/-- A file holding the names each followed by a NUL names exactly those starting points, in order —
    whatever else the names contain (leading '-', newlines, blanks). -/
theorem C18_files0_terminated (names : List Bytes) (h : ∀ n ∈ names, n ≠ [] ∧ ∀ b ∈ n, b ≠ 0) :
    files0 (names.flatMap (· ++ [0])) = (names, false) := by
  simpa using files0_flat names [] h (by simp)

/-- The final NUL is optional. -/
theorem C18_files0_unterminated (names : List Bytes) (last : Bytes)
    (h : ∀ n ∈ names, n ≠ [] ∧ ∀ b ∈ n, b ≠ 0) (hl : last ≠ [] ∧ ∀ b ∈ last, b ≠ 0) :
    files0 (names.flatMap (· ++ [0]) ++ last) = (names ++ [last], false) := by
  simpa [hl.1] using files0_flat names last h hl.2

/-- A list of NUL-terminated names is accepted exactly when every name is valid UTF-8 (starting
    points are held as strings; the same word among the operands is refused by `main`): a name
    that is not is never left out silently - the whole list is refused. -/
theorem C18_files0_accepts_iff (names : List Bytes) (h : ∀ n ∈ names, ∀ b ∈ n, b ≠ 0) :
    files0Ok (names.flatMap (· ++ [0])) = true ↔ ∀ n ∈ names, FuModel.Utf8.validUtf8 n = true := by
  have hs := splitNul_flat names [] h (by simp)
  rw [List.append_nil] at hs
  simp only [files0Ok, hs, List.all_append, List.all_cons, List.all_nil, Bool.and_true, Bool.and_eq_true, List.all_eq_true]
  exact ⟨fun h1 => h1.1, fun h1 => ⟨h1, by decide⟩⟩

example : files0Ok [99, 97, 102, 0xe9, 0, 100, 0] = false ∧ files0Ok [99, 97, 102, 0xc3, 0xa9, 0, 100, 0] = true := by decide

/-! ### paths are spelled with the starting point as given -/
theorem pushName_prefix (p : Bytes) (n : Name) : ∃ t, pushName p n = p ++ t := by
  unfold pushName; split
  · exact ⟨n, rfl⟩
  · exact ⟨47 :: n, rfl⟩

theorem foldl_pushName_prefix (names : List Name) (p : Bytes) : ∃ t, names.foldl pushName p = p ++ t := by
  induction names generalizing p with
  | nil => exact ⟨[], by simp⟩
  | cons n ns ih =>
    obtain ⟨t1, h1⟩ := pushName_prefix p n
    obtain ⟨t2, h2⟩ := ih (pushName p n)
    exact ⟨t1 ++ t2, by rw [List.foldl_cons, h2, h1, List.append_assoc]⟩

/-- Every path find reports begins with its starting point exactly as it was spelled — no
    normalisation of `./`, `..`, repeated or trailing slashes. -/
theorem C18_spelling (start : Bytes) (rpath : List Name) : ∃ t, pathOf start rpath = start ++ t :=
  foldl_pushName_prefix _ _

/-- … and below it the names are joined by single slashes (none is added after a starting point that
    already ends in one). -/
theorem C18_join (start : Bytes) (n : Name) (rpath : List Name) :
    pathOf start (n :: rpath) = pushName (pathOf start rpath) n := by
  simp [pathOf, List.foldl_append]

theorem C18_join_slash (p : Bytes) (n : Name) :
    pushName p n = if p.getLast? = some 47 then p ++ n else p ++ [47] ++ n := by
  unfold pushName; split <;> simp_all

/-! ### one after another, in order; errors are isolated -/

/-- `do_find` takes the starting points in the order given; each one is processed on its own (its
    result depends only on the configuration, the expression, its own tree and the output so far);
    after -quit nothing further is processed. -/
theorem C18_order (c : Config) (m : M Prim) (start : Bytes) (root : Option (Node Attr))
    (rest : List (Bytes × Option (Node Attr))) (g : GS) (ret diags : Nat) :
    doFind c m ((start, root) :: rest) g ret diags =
      (let r := processDir c m start root g
       let ret' := if r.ret != 0 then r.ret else ret
       if r.quit then ⟨r.gs, ret', true, diags + r.diags⟩
       else doFind c m rest r.gs ret' (diags + r.diags)) := by
  rw [doFind]

/-- A starting point that cannot be examined: one diagnostic, nothing printed (`finishDir` only
    dispatches pending `-exec … +` command lines), the others are processed as if it had not been given … -/
theorem C18_isolation (c : Config) (m : M Prim) (start : Bytes)
    (rest : List (Bytes × Option (Node Attr))) (g : GS) (ret diags : Nat) :
    (doFind c m ((start, none) :: rest) g ret diags) =
      doFind c m rest (finishDir m { g with curDir := none }).1 1 (diags + 1) := by
  rw [doFind]; simp [processDir]

/-- … and the exit status stays non-zero. -/
theorem C18_status_sticky (c : Config) (m : M Prim) (roots : List (Bytes × Option (Node Attr)))
    (g : GS) (ret diags : Nat) (h : ret ≠ 0) : (doFind c m roots g ret diags).ret ≠ 0 := by
  induction roots generalizing g ret diags with
  | nil => exact h
  | cons r rs ih =>
    obtain ⟨start, root⟩ := r
    rw [doFind]
    split
    · exact ret_ne_zero (.inr h)
    · exact ih _ _ _ (ret_ne_zero (.inr h))

/-- No starting point means `.`; the operands are taken in order up to the first word that starts
    the expression. -/
theorem C18_default_dot (argv : List (List Char)) (h : (scanOperands (scanFlags .never argv).2).1 = []) :
    (parseLeading argv).paths = [['.']] := by
  simp [parseLeading, h]

example : (parseLeading ["-L".toList, "a".toList, "./b/".toList, "-".toList, "-name".toList, "x".toList]).paths
    = ["a".toList, "./b/".toList, "-".toList] := by decide +kernel

example : (parseLeading ["-H".toList, "-print".toList]).paths = [['.']] ∧
    (parseLeading ["-H".toList, "-print".toList]).follow = .roots := by decide +kernel

example : files0 [45, 97, 0, 0, 98, 10, 99] = ([[45, 97], [98, 10, 99]], true) := by decide
example : pathOf [46, 47, 100, 47, 47] [[99], [98]] = [46, 47, 100, 47, 47, 98, 47, 99] := by decide

/-- **End to end over all starting points**: `find S1 S2 … TEST ACTION` with an action that only
    writes (`-print`, `-print0`, `-printf`): `do_find`'s loop over the starting points, each walked
    by `process_dir` over walkdir's iterator, writes exactly the concatenation — in command-line
    order — of what each starting point contributes (its in-range reachable entries that satisfy
    the test, in visit order, each once); a starting point that cannot be examined contributes
    nothing, does not stop the others and makes the exit status non-zero.  Proof: `doFind_outM` in
    `Proofs/OutWalk.lean`, for any expression of tests. -/
theorem C18_roots_in_order (c : Config) (t a : Prim) (ht : isTestP t = true) (ha : isOutP a = true)
    (roots : List (Bytes × Option (Node Attr)))
    (g : GS) (ret diags : Nat) :
    let res := doFind c (.and [.prim t, .prim a]) roots g ret diags
    res.gs.out = g.out ++ roots.flatMap (writtenRoot c t a) ∧
    ((ret ≠ 0 ∨ ∃ x ∈ roots, x.2 = none) → res.ret ≠ 0) :=
  writtenRoot_eq c t a ▸ doFind_outM c (.prim t) ht a ha roots g ret diags

/-- non-vacuity: `find a missing b -print0` — the reference side, evaluated by the kernel -/
example :
    let fa : Node Attr := .leaf [97] .plain { lty := 'f', sty := 'f' }
    let fb : Node Attr := .leaf [98] .plain { lty := 'f', sty := 'f' }
    ([([97], some fa), ([109], none), ([98], some fb)] : List (Bytes × Option (Node Attr))).flatMap
        (writtenRoot {} .true_ (.pathOut [] [0])) = [97, 0, 98, 0] := by decide

/-- the statement evaluated on a concrete run: `find a missing b -type f` -/
example :
    let fa : Node Attr := .leaf [97] .plain { lty := 'f', sty := 'f' }
    let db : Node Attr := .dir [98] false true { lty := 'd', sty := 'd' } [.leaf [99] .plain { lty := 'f', sty := 'f' }]
    ([([97], some fa), ([109], none), ([98], some db)] : List (Bytes × Option (Node Attr))).flatMap
        (writtenRoot { follow := .never } (.typeIs 'f') (.pathOut [] [10])) = [97, 10, 98, 47, 99, 10] := by decide +kernel

/-- **`find [-P|-H|-L] S1 S2 … EXPR` for any well-formed expression of tests** (`-name a -o ! -type d`,
    parentheses, commas; no action, no option) — the whole run of the model with no hypothesis on
    the trees: the tree builder yields `mt` (C01, C11), the default `-print` is added (C01), and the
    output is the concatenation, in command-line order of the starting points and visit order inside
    each, of `path ++ "\n"` for the reachable entries on which the expression is true.  Generalises
    `C18_whole_run` from one test to test expressions (purity lemma `pure_M`: an expression of tests
    leaves the state alone and its truth does not depend on it). -/
theorem C18_whole_run_expr (follow : Follow) (toks : List (Tok Prim)) (mt : M Prim)
    (hb : buildTree toks = .ok mt) (ht : TestsOnly mt)
    (roots : List (Bytes × Option (Node Attr))) (g0 : GS) :
    ∃ res, run follow roots (toks.map Arg.tok) g0 = some res ∧
      res.gs.out = g0.out ++ roots.flatMap (writtenRootM { follow := follow } mt (.pathOut [] [10])) ∧
      ((∃ x ∈ roots, x.2 = none) → res.ret ≠ 0) := by
  have hbt : buildTop Prim.isAction (.pathOut [] [10]) toks = .ok (.and [mt, .prim (.pathOut [] [10])]) := by
    simp [buildTop, hb, hasSE_tests mt ht]
  refine ⟨doFind { follow := follow } (.and [mt, .prim (.pathOut [] [10])]) roots g0 0 0, ?_, ?_⟩
  · have hmap : (toks.map Arg.tok).map Arg.tok' = toks := by
      rw [List.map_map]; exact List.map_id'' (fun _ => rfl) _
    simp only [run, foldl_tok, hmap, hbt, Bool.false_eq_true, if_false]
  · have h := doFind_outM { follow := follow } mt ht (.pathOut [] [10]) rfl roots g0 0 0
    exact ⟨h.1, fun hx => h.2 (Or.inr hx)⟩

/-- **`find [-P|-H|-L] S1 S2 … TEST`** (no action: `-print` is implied) — the whole run of the
    model, with no hypothesis on the trees: argument layer, tree builder with the default action
    (C01), `do_find` over the starting points (this property), `process_dir` over walkdir's iterator
    (C02, C03), the action (C07).  The output is the concatenation, in command-line order of the
    starting points and in visit order inside each, of `path ++ "\n"` for the reachable entries
    that satisfy the test; a starting point that cannot be examined contributes nothing and makes
    the status non-zero. -/
theorem C18_whole_run (follow : Follow) (t : Prim) (ht : isTestP t = true)
    (roots : List (Bytes × Option (Node Attr))) (g0 : GS) :
    ∃ res, run follow roots [.tok (.prim t)] g0 = some res ∧
      res.gs.out = g0.out ++ roots.flatMap (writtenRoot { follow := follow } t (.pathOut [] [10])) ∧
      ((∃ x ∈ roots, x.2 = none) → res.ret ≠ 0) :=
  writtenRoot_eq _ t _ ▸ C18_whole_run_expr follow [.prim t] (.prim t) rfl ht roots g0

/-- non-vacuity: `-name a -o ! -type d` is such an expression, and on `t/{a, b/{a,c}}` … -/
example :
    let toks : List (Tok Prim) := [.prim (.name [97]), .or_, .bang, .prim (.typeIs 'd')]
    let mt : M Prim := .or [.prim (.name [97]), .not (.prim (.typeIs 'd'))]
    let root : Node Attr := .dir [116] false true { lty := 'd', sty := 'd' }
      [.dir [97] false true { lty := 'd', sty := 'd' } [], .dir [98] false true { lty := 'd', sty := 'd' } [.leaf [99] .plain { lty := 'f', sty := 'f' }]]
    buildTree toks = .ok mt ∧ TestsOnly mt ∧
      ([([116], some root)] : List (Bytes × Option (Node Attr))).flatMap (writtenRootM {} mt (.pathOut [] [10])) =
        [116, 47, 97, 10, 116, 47, 98, 47, 99, 10] := by
  intro toks mt root
  exact ⟨rfl, ⟨rfl, rfl, trivial⟩, by decide +kernel⟩

end FuModel.Find.Run
