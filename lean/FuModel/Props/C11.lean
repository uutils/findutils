import FuModel.Proofs.Cmdline
import FuModel.Props.C14
import FuModel.Proofs.ExprConv
import FuModel.Props.C01
import FuModel.Spec.CmdlineRef

/-!
# C11 — malformed command lines are rejected before any action

Model: `Find/Cmdline.lean` (`classify`, `lex`, `verdict` = `parse_args` with
`build_matcher_tree`'s word loop) on top of the tree builder of `Find/Expr.lean` (`run`).
Each class of malformed input the property lists is refused **in every context**: the token-level
theorems quantify over everything that stands before (and after) the offending fragment, the
word-level ones over every completely read prefix.  `C11_rejected_before_any_action`: a refused
command line ends the run with status 1 and one diagnostic before the walk starts.
The "never a panic" half of the property is about the Rust runtime (slicing, unwrap, arithmetic
overflow); it is carried by the correspondence runs: the model is total, so every panic of the
implementation is a disagreement with a concrete input.
-/
namespace FuModel.Find.Cmdline
open FuModel.Find FuModel.Find.Expr FuModel.Find.Regex FuModel.Spec.CmdlineRef

/-! ## the tree builder (operators and parentheses) -/

/-- a dangling operator or `!` at the end of the expression -/
theorem C11_dangling_operator {P : Type} (pre : List (Tok P)) (op : Tok P) (h : op.isOp = true) :
    Rejects (buildTree (pre ++ [op])) :=
  run_prefix [op] (run_op_no_operand op h [] rfl) pre [] St.empty false

/-- … or directly before a closing parenthesis -/
theorem C11_operator_before_close {P : Type} (pre post : List (Tok P)) (op : Tok P) (h : op.isOp = true) :
    Rejects (buildTree (pre ++ op :: .rp :: post)) :=
  run_prefix _ (run_op_no_operand op h (.rp :: post) rfl) pre [] St.empty false

/-- a binary operator that directly follows another operator or `!` -/
theorem C11_operator_after_operator {P : Type} (pre post : List (Tok P)) (op1 op2 : Tok P)
    (h1 : op1.isOp = true) (h2 : op2.isBinary = true) :
    Rejects (buildTree (pre ++ op1 :: op2 :: post)) :=
  run_prefix _ (run_op_op op1 op2 h1 h2 post) pre [] St.empty false

/-- a binary operator at the very beginning or directly after `(` -/
theorem C11_operator_first {P : Type} (post : List (Tok P)) (op : Tok P) (h : op.isBinary = true) :
    Rejects (buildTree (op :: post)) :=
  run_binary_reject op h post [] St.empty false (.inl rfl)

theorem C11_operator_after_open {P : Type} (pre post : List (Tok P)) (op : Tok P) (h : op.isBinary = true) :
    Rejects (buildTree (pre ++ .lp :: op :: post)) :=
  run_prefix _ (run_lp_op op h post) pre [] St.empty false

/-- empty parentheses, anywhere -/
theorem C11_empty_parens {P : Type} (pre post : List (Tok P)) :
    Rejects (buildTree (pre ++ .lp :: .rp :: post)) :=
  run_prefix _ (run_lp_rp post) pre [] St.empty false

/-- unbalanced parentheses: a `)` without its `(`, or a `(` never closed -/
theorem C11_unbalanced {P : Type} (ts : List (Tok P)) (h : balanced 0 ts = false) : Rejects (buildTree ts) :=
  rejects_of_not_ok fun m hr => Bool.false_ne_true (h.symm.trans (run_balanced ts [] St.empty false m hr))

/-- **The builder accepts exactly the sentences of the grammar** (and the empty expression):
    rejection holds for the whole complement of the grammar, not for listed classes only.
    `→` is the converse parser theorem (`Proofs/ExprConv.lean`), `←` is `C01_parse`. -/
theorem C11_parser_exact {P : Type} (ts : List (Tok P)) :
    (∃ m, buildTree ts = .ok m) ↔ (ts = [] ∨ ∃ l, WF l ∧ renderL l = ts) := by
  constructor
  · rintro ⟨m, h⟩; exact buildTree_sentence ts m h
  · rintro (rfl | ⟨l, hl, rfl⟩)
    · exact ⟨_, rfl⟩
    · exact ⟨_, C01_parse l hl⟩

/-- a non-empty token string that is not the rendering of a syntax tree of the grammar is refused -/
theorem C11_not_a_sentence {P : Type} (ts : List (Tok P)) (hne : ts ≠ [])
    (hn : ∀ l, WF l → renderL l ≠ ts) : Rejects (buildTree ts) :=
  rejects_of_not_ok fun m hr => (buildTree_sentence ts m hr).elim hne fun ⟨l, hl, h⟩ => hn l hl h

/-! ## the words: primaries and their operands -/

/-- the setting of the word-level theorems: after the flags and starting points the expression
    begins with completely read words `pre` (no error in them, no `-help`), followed by `suf` -/
structure After (e : Ext) (argv pre suf : List Word) : Prop where
  split : (FuModel.Find.Run.parseLeading argv).rest = pre ++ suf
  read : ∃ ts, lex e .emacs none false pre = (ts, .done)

theorem reject_after {e : Ext} {argv pre suf : List Word} (a : After e argv pre suf)
    (h : ∀ rt olp, (lex e rt none olp suf).2 = .bad) : verdict e argv = .reject := by
  obtain ⟨ts, hts⟩ := a.read
  apply verdict_of_bad
  rw [a.split]
  exact lex_bad_after e .emacs false pre suf ts hts h

/-- an unknown primary, wherever a primary may stand -/
theorem C11_unknown_primary (e : Ext) (argv pre ws : List Word) (w : Word) (a : After e argv pre (w :: ws))
    (h : classify w = .unknown) : verdict e argv = .reject :=
  reject_after a fun rt olp => by rw [lex_unknown e rt olp w ws h]

/-- a primary that needs an operand as the last word -/
theorem C11_missing_operand (e : Ext) (argv pre : List Word) (w : Word) (c : Check) (a : After e argv pre [w])
    (h : classify w = .unary c) : verdict e argv = .reject :=
  reject_after a fun rt olp => by rw [lex_missing_operand e rt olp w c h]

/-- `-fprintf` with fewer than two words after it -/
theorem C11_fprintf_missing (e : Ext) (argv pre ws : List Word) (w : Word) (a : After e argv pre (w :: ws))
    (h : classify w = .fprintf) (hl : ws.length < 2) : verdict e argv = .reject :=
  reject_after a fun rt olp => by rw [lex_fprintf_short e rt olp w ws h hl]

/-- an operand its validator refuses, whatever the regex syntax in force: invalid -printf format,
    -regextype name, -type letter, -size / numeric operand, -perm mode, -maxdepth number, unknown
    -user / -group, missing reference file, undecodable -newerXt date, -newerBY -/
theorem C11_invalid_operand (e : Ext) (argv pre ws : List Word) (w op : Word) (c : Check)
    (a : After e argv pre (w :: op :: ws)) (h : classify w = .unary c)
    (hb : ∀ rt, checkOperand e rt c op = .bad) : verdict e argv = .reject :=
  reject_after a fun rt olp => by rw [lex_bad_operand e rt olp w op ws c h (hb rt)]

/-- `-exec` / `-execdir` without terminator, or without a command -/
theorem C11_exec_unterminated (e : Ext) (argv pre ws : List Word) (w : Word) (a : After e argv pre (w :: ws))
    (h : classify w = .exec) (hn : ∀ x ∈ ws, x ≠ [';'] ∧ x ≠ ['+']) : verdict e argv = .reject :=
  reject_after a fun rt olp => by rw [lex_exec_unterminated e rt olp w ws h hn]

theorem C11_exec_no_command (e : Ext) (argv pre ws : List Word) (w : Word) (a : After e argv pre (w :: [';'] :: ws))
    (h : classify w = .exec) : verdict e argv = .reject :=
  reject_after a fun rt olp => by rw [lex_exec_no_command e rt olp w ws h]

theorem Res.ofBool_eq_ok (b : Bool) : Res.ofBool b = .ok ↔ b = true := by cases b <;> decide

/-- what the operand validators accept, in the property's terms -/
theorem C11_numeric_operand (e : Ext) (rt : RType) (w : Word) :
    checkOperand e rt .cmp w = .ok ↔
      ∃ (sg : Sign) (ds : List Char), w = sg.chars ++ ds ∧ ds ≠ [] ∧ (∀ d ∈ ds, isAsciiDigit d = true) ∧ decVal ds < 2 ^ 64 := by
  refine (Res.ofBool_eq_ok _).trans (Option.isSome_iff_exists.trans ⟨fun ⟨c, hc⟩ => ?_, fun ⟨sg, ds, h1, h2, h3, h4⟩ => ?_⟩)
  · obtain ⟨sg, ds, h1, h2, h3, h4, _⟩ := (C14_parse w c).1 hc
    exact ⟨sg, ds, h1, h2, h3, h4⟩
  · exact ⟨_, (C14_parse w _).2 ⟨sg, ds, h1, h2, h3, h4, rfl⟩⟩

theorem C11_size_operand (e : Ext) (rt : RType) (w : Word) :
    checkOperand e rt .size w = .ok ↔
      ∃ (sg : Sign) (ds suf : List Char) (k : Nat), w = sg.chars ++ ds ++ suf ∧ ds ≠ [] ∧ (∀ d ∈ ds, isAsciiDigit d = true) ∧
        (∀ d, suf.head? = some d → isAsciiDigit d = false) ∧ decVal ds < 2 ^ 64 ∧ unitShift suf = some k := by
  refine (Res.ofBool_eq_ok _).trans (Option.isSome_iff_exists.trans
    ⟨fun ⟨(c, k), hc⟩ => ?_, fun ⟨sg, ds, suf, k, h1, h2, h3, h4, h5, h6⟩ => ?_⟩)
  · obtain ⟨sg, ds, suf, h1, h2, h3, h4, h5, _, h6⟩ := (C14_parse_size w c k).1 hc
    exact ⟨sg, ds, suf, k, h1, h2, h3, h4, h5, h6⟩
  · exact ⟨_, (C14_parse_size w _ k).2 ⟨sg, ds, suf, h1, h2, h3, h4, h5, rfl, h6⟩⟩

theorem C11_type_operand (e : Ext) (rt : RType) (w : Word) :
    checkOperand e rt .ftype w = .ok ↔ w ∈ [['f'], ['d'], ['l'], ['b'], ['c'], ['p'], ['s']] := by
  have : ∀ s : String, String.ofList w = s ↔ w = s.toList := fun s =>
    ⟨fun h => by simp [← h], fun h => by simp [h]⟩
  simp [checkOperand, Res.ofBool_eq_ok, ftypeLetters, this]

/-! ## rejection comes before everything else -/

/-- what `find_main` returns for a verdict; `walk` is everything `do_find` does after `parse_args` -/
def outcome (v : Verdict) (walk : Outcome) : Outcome :=
  match v with
  | .accept => walk
  | .unmodelled => walk
  | .help => ⟨0, 0, false⟩
  | .reject => rejected

/-- a rejected command line ends the run with a diagnostic and status 1; the walk — every visit,
    output, command and removal — is not started -/
theorem C11_rejected_before_any_action (e : Ext) (argv : List Word) (walk : Outcome) (h : verdict e argv = .reject) :
    outcome (verdict e argv) walk = ⟨1, 1, false⟩ := by rw [h]; rfl

/-- an accepted command line: every word was read (no unknown primary, every operand present
    and valid) and the tokens form a sentence of the grammar or are empty -/
theorem C11_accept_sound (e : Ext) (argv : List Word) (h : verdict e argv = .accept) :
    ∃ ts, lex e .emacs none false (FuModel.Find.Run.parseLeading argv).rest = (ts, .done) ∧
      (ts = [] ∨ ∃ l, WF l ∧ renderL l = ts) := by
  obtain ⟨ts, m, h1, h2⟩ := verdict_accept e argv h
  exact ⟨ts, h1, buildTree_sentence ts m h2⟩

/-! ## the vocabulary -/

def kindOf : Arity → Kind
  | .zero => .nullary
  | .one c => .unary c
  | .two => .fprintf
  | .execLike => .exec

/-- the implementation's word table and the reference vocabulary agree on every listed primary -/
theorem C11_vocabulary : ∀ p ∈ vocab, classify p.1.toList = kindOf p.2 := by decide +kernel

/-! Non-vacuity: concrete command lines in the scope of the theorems. -/
def noExt : Ext := ⟨fun _ _ _ => none, fun _ => none, fun _ => none, fun _ => none, fun _ => none, fun _ => none, fun _ => none, fun _ => none⟩

example : After noExt ["t".toList, "-print".toList, "-size".toList] ["-print".toList] ["-size".toList] :=
  ⟨by decide +kernel, ⟨[.prim "-print".toList], by decide +kernel⟩⟩
example : verdict noExt ["t".toList, "-print".toList, "-size".toList] = .reject := by decide +kernel
example : verdict noExt ["t".toList, "-delete".toList, "-bogus".toList] = .reject := by decide +kernel
example : verdict noExt ["t".toList, "-true".toList, "!".toList, "-a".toList, "-false".toList] = .reject := by decide +kernel
example : verdict noExt ["t".toList, "(".toList, "-name".toList, "x".toList, ")".toList, "-o".toList, "-size".toList, "+1k".toList] = .accept := by decide +kernel

end FuModel.Find.Cmdline
