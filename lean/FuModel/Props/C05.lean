import FuModel.Proofs.XargsRead
import FuModel.Proofs.XargsWords

/-!
# C05 — xargs input splitting: quoting, the -0 and -d modes, independent of read() chunking

Property theorems only (lemmas are in `Proofs/XargsRead.lean`, `Proofs/XargsWords.lean`).
The model (`Xargs/Read.lean`) mirrors `WhitespaceDelimitedArgumentReader::next` and
`ByteDelimitedArgumentReader::next`; `wsAll` drives `next()` call by call over a
list of `read()` results, `tokenizeWs` is the buffer-free one-pass function.
-/
namespace FuModel.Xargs

/-- The buffered reader (`wsAll`: one `read()` result after the other, state carried across)
    computes the one-pass tokenisation of the whole input. -/
theorem C05_buffered_eq_onepass (chunks : List (List UInt8)) :
    wsAll chunks = tokenizeWs chunks.flatten :=
  wsAllFuel_spec _ [] chunks (Nat.lt_succ_of_le (tokFrom_args_length RS.init chunks.flatten))

/-- Hence the argument sequence (bytes and hard/soft kinds, or the error together with
    the arguments delivered before it) depends only on the concatenated input,
    never on how it is cut into `read()` results. -/
theorem C05_chunk_independent (chunks₁ chunks₂ : List (List UInt8))
    (h : chunks₁.flatten = chunks₂.flatten) : wsAll chunks₁ = wsAll chunks₂ := by
  rw [C05_buffered_eq_onepass, C05_buffered_eq_onepass, h]

/-- Default mode, generatively: an input made of words (each a sequence of plain
    bytes, backslash-quoted bytes, `'…'` and `"…"` pieces) each followed by a
    non-empty run of blanks yields exactly the words' values (quotes and
    backslashes removed, everything inside taken literally), one argument per
    word with a non-empty value, hard-terminated iff the first blank after it is
    a newline.  Leading, repeated and trailing separators add nothing
    (a leading run of blanks is an item with the empty word). -/
theorem C05_words (items : List Item) (h : ∀ it ∈ items, it.ok) :
    tokenizeWs (renderItems items) = .ok (expected items) := by
  simpa [tokenizeWs, tokFrom, RS.init, ReadAll.prepend] using tok_items items h []

/-- …and a last word that is ended by the end of input instead of a blank is a
    soft-terminated argument (none if its value is empty). -/
theorem C05_words_last (items : List Item) (h : ∀ it ∈ items, it.ok)
    (w : List Piece) (hw : ∀ p ∈ w, p.ok) :
    tokenizeWs (renderItems items ++ renderWord w) =
      .ok (expected items ++ if valueWord w = [] then [] else [(valueWord w, false)]) := by
  have h2 : tokFrom RS.init (renderWord w) = tokFrom ⟨.none, valueWord w⟩ [] := by
    simpa [RS.init] using tok_word w hw [] []
  rw [tokenizeWs, tok_items items h, h2]
  cases valueWord w <;> simp [tokFrom, ReadAll.prepend]

/-- An unmatched quote is an error, whatever precedes it (the arguments completed
    before it are still those of the preceding items). -/
theorem C05_unterminated (items : List Item) (h : ∀ it ∈ items, it.ok)
    (w : List Piece) (hw : ∀ p ∈ w, p.ok) (q : UInt8) (hq : q = 34 ∨ q = 39)
    (body : List UInt8) (hb : q ∉ body) :
    tokenizeWs (renderItems items ++ (renderWord w ++ q :: body)) = .err (expected items) := by
  have h2 : tokFrom RS.init (renderWord w ++ q :: body) = tokFrom ⟨.none, valueWord w⟩ (q :: body) :=
    tok_word w hw [] _
  have hqb : isQuoteByte q = true := by rcases hq with rfl | rfl <;> decide
  rw [tokenizeWs, tok_items items h, h2, tokFrom, stepByte]
  simp [hqb, tok_unterminated q body hb, ReadAll.prepend]

/-- No argument is ever empty: in particular none is produced for leading,
    trailing or repeated separators (holds for *every* input byte string). -/
theorem C05_no_empty_argument (inp : List UInt8) :
    ∀ a, (tokenizeWs inp = .ok a ∨ tokenizeWs inp = .err a) → ∀ x ∈ a, x.1 ≠ [] := by
  intro a h
  have := tokFrom_nonempty RS.init inp
  rcases h with h | h <;> rwa [show tokFrom RS.init inp = _ from h] at this

/-- `-0` / `-d C`: the input is split only at the delimiter byte; with segments
    `s₁ … sₙ` (none containing the delimiter) each followed by the delimiter and
    an optional unterminated last segment, the arguments are exactly the
    non-empty segments, byte for byte — no quote or backslash processing. -/
theorem C05_delim (d : UInt8) (segs : List (List UInt8)) (last : List UInt8)
    (hs : ∀ s ∈ segs, d ∉ s) (hl : d ∉ last) :
    bdAll d (segs.flatMap (· ++ [d]) ++ last) = (segs ++ [last]).filter (· ≠ []) := by
  unfold bdAll
  induction segs with
  | nil =>
    have := bdFrom_seg d [] last [] hl
    simp only [List.append_nil, List.nil_append] at this
    simp only [List.flatMap_nil, List.nil_append, this, bdFrom]
    cases last <;> simp
  | cons s ss ih =>
    have hs' : ∀ s ∈ ss, d ∉ s := fun x hx => hs x (List.mem_cons_of_mem _ hx)
    have h1 := bdFrom_seg d [] s (d :: (ss.flatMap (· ++ [d]) ++ last)) (hs s List.mem_cons_self)
    simp only [List.flatMap_cons, List.append_assoc, List.cons_append, List.nil_append] at h1 ⊢
    rw [h1, bdFrom_delim, ih hs']
    cases s <;> simp

/-! Non-vacuity: concrete inputs that meet the hypotheses. -/

example : wsAll [[97, 98], [32, 39], [99, 32, 100, 39, 10]] =
    .ok [([97, 98], false), ([99, 32, 100], true)] := by decide +kernel

example : (⟨[.plain 97, .sq [32, 34], .esc 39], [10, 32]⟩ : Item).ok := by
  refine ⟨?_, ?_, by simp⟩
  · intro p hp; simp at hp; rcases hp with rfl | rfl | rfl <;> simp [Piece.ok, isWs, isQuoteByte]
  · intro c hc; simp at hc; rcases hc with rfl | rfl <;> decide

example : tokenizeWs [32, 32, 97, 32, 32] = .ok [([97], false)] := by decide +kernel
example : tokenizeWs [97, 39, 98] = .err [] := by decide +kernel
example : bdAll 0 [97, 0, 0, 39, 32, 0] = [[97], [39, 32]] := by decide +kernel

end FuModel.Xargs
