import FuModel.Props.C04
import FuModel.Props.C05
import FuModel.Proofs.OutWalk

/-!
# C07 — -print0 paths are byte-exact and survive the pipe into xargs -0

Composition of three models: the path construction of the walk and the `-print0` action
(`Find/Run.lean`), the NUL-delimited reader of xargs (`Xargs/Read.lean`, C05) and its batching
loop (`Xargs/Batch.lean`, C04).
-/
namespace FuModel.Find.Run
open FuModel.Find.Walk

/-- `-print0` (resp. `-print`) appends exactly the path followed by one NUL (resp. newline) to
    the output; nothing is escaped or added — for paths that are valid UTF-8 (the property's scope;
    the code writes paths through `to_string_lossy`, `Base/Utf8.lean`). -/
theorem C07_print_exact (start : Bytes) (v : Visit Attr) (s : ES) (term : UInt8)
    (hv : FuModel.Utf8.validUtf8 (pathOf start v.ent.rpath) = true) :
    sem start v (.pathOut [] [term]) s =
      (true, { s with gs := { s.gs with out := s.gs.out ++ pathOf start v.ent.rpath ++ [term] } }) := by
  have : FuModel.Utf8.lossy (pathOf start v.ent.rpath) = pathOf start v.ent.rpath := by
    simpa [FuModel.Utf8.validUtf8] using hv
  simp [sem, this]

def endsSlash (p : Bytes) : Bool := p.getLast? == some 47

/-- a name as the file system allows it: non-empty, no '/' -/
def NameOk (n : Name) : Prop := n ≠ [] ∧ (47 : UInt8) ∉ n

theorem pushName_eq (p : Bytes) (n : Name) : pushName p n = p ++ (if endsSlash p then [] else [47]) ++ n := by
  unfold pushName endsSlash
  split <;> simp

theorem pushName_noslash_end (p : Bytes) (n : Name) (hn : NameOk n) : endsSlash (pushName p n) = false := by
  rw [pushName_eq, endsSlash, List.getLast?_append, List.getLast?_eq_some_getLast hn.1, Option.some_or]
  exact beq_false_of_ne fun h => hn.2 (Option.some.inj h ▸ List.getLast_mem hn.1)

theorem foldl_pushName (names : List Name) (q : Bytes) (hq : endsSlash q = false) (h : ∀ m ∈ names, NameOk m) :
    names.foldl pushName q = q ++ names.flatMap (47 :: ·) := by
  induction names generalizing q with
  | nil => simp
  | cons m ms ih =>
    rw [List.foldl_cons, ih _ (pushName_noslash_end q m (h m (by simp))) fun x hx => h x (by simp [hx]),
      pushName_eq, hq]
    simp

/-- The printed path is the starting point exactly as given, then (unless it already ends in '/')
    one '/', then the names below it joined by single '/' — for all names, whatever bytes they
    contain. -/
theorem C07_path_form (start : Bytes) (names : List Name) (n : Name) (h : ∀ m ∈ n :: names, NameOk m) :
    (n :: names).foldl pushName start =
      start ++ (if endsSlash start then [] else [47]) ++ n ++ names.flatMap (47 :: ·) := by
  rw [List.foldl_cons, foldl_pushName names _ (pushName_noslash_end start n (h n (by simp))) fun x hx => h x (by simp [hx]),
    pushName_eq]

theorem C07_path_of (start : Bytes) (rpath : List Name) (hne : rpath ≠ []) (h : ∀ m ∈ rpath, NameOk m) :
    ∃ n names, rpath.reverse = n :: names ∧
      pathOf start rpath = start ++ (if endsSlash start then [] else [47]) ++ n ++ names.flatMap (47 :: ·) := by
  cases hr : rpath.reverse with
  | nil => exact absurd (List.reverse_eq_nil_iff.1 hr) hne
  | cons n names =>
    exact ⟨n, names, rfl, by rw [pathOf, hr]; exact C07_path_form _ _ _ fun m hm => h m (List.mem_reverse.1 (hr ▸ hm))⟩

end FuModel.Find.Run

namespace FuModel.Xargs

/-- What `find -print0` writes for paths `ps` is read back by `xargs -0` as exactly `ps`, for all
    non-empty NUL-free byte strings (blanks, quotes, backslashes, newlines, leading dashes … are
    not interpreted). -/
theorem C07_roundtrip (ps : List (List UInt8)) (h : ∀ p ∈ ps, p ≠ [] ∧ (0 : UInt8) ∉ p) :
    bdAll 0 (ps.flatMap (· ++ [0])) = ps := by
  have := C05_delim 0 ps [] (fun s hs => (h s hs).2) (by simp)
  rw [List.append_nil] at this
  rw [this, List.filter_append, List.filter_eq_self.2 fun p hp => by simpa using (h p hp).1]
  simp

/-- … and every one of them reaches a command exactly once, in order, unmodified: when xargs
    completes (status 0 or 123) the appended arguments of its commands, concatenated, are the
    paths find printed. -/
theorem C07_delivered_once (cfg : Config) (init : LState) (script : List Outcome)
    (ps : List (List UInt8)) (h : ∀ p ∈ ps, p ≠ [] ∧ (0 : UInt8) ∉ p) :
    let args := (bdAll 0 (ps.flatMap (· ++ [0]))).map fun b => (⟨b, .hard⟩ : Arg)
    let run := processInput cfg init false ⟨init, []⟩ false false [] script args
    (run.status = 0 ∨ run.status = 123) → run.batches.flatten.map (·.bytes) = ps := by
  intro args run hs
  have hl := (C04_lossless cfg init script args).2 hs
  show (processInput cfg init false ⟨init, []⟩ false false [] script args).batches.flatten.map (·.bytes) = ps
  rw [hl]
  simp only [args, C07_roundtrip ps h, List.map_map]
  exact List.map_id'' (fun _ => rfl) _

end FuModel.Xargs

namespace FuModel.Find.Run
open FuModel.Find.Walk

/-- **Whole starting point**: `find [-P|-H|-L] START TEST -print0` (or `-print`, any prefix and
    terminator), for every tree, depth range, traversal order and test that only looks at the
    entry: the bytes written are exactly, in visit order, the printed paths of the in-range
    reachable entries that satisfy the test — every such entry once, nothing else — and the walk
    is not stopped.  Ties C02 (which entries), C03 (order) and this property's per-entry theorem
    together over the real walk (walkdir's iterator under `process_dir`); proof in
    `Proofs/OutWalk.lean` (`processDir_outM`, for every action that only writes). -/
theorem C07_whole_walk (c : Config) (t : Prim) (ht : isTestP t = true) (pre term : Bytes)
    (start : Bytes) (root : Node Attr) (g : GS) :
    let n := if c.sorted then sortNode root else root
    let r := processDir c (.and [.prim t, .prim (.pathOut pre term)]) start (some root) g
    r.gs.out = g.out ++ (visitsN (refCfg c) [] 0 n).flatMap (written start t (.pathOut pre term)) ∧ r.quit = false :=
  written_eq start t _ ▸ processDir_outM c (.prim t) ht (.pathOut pre term) rfl start root g

/-- non-vacuity: `find t -type f -print0` on a two-level tree (the reference side of the equation,
    evaluated by the kernel) -/
example :
    let root : Node Attr := .dir [116] false true { lty := 'd', sty := 'd' }
      [.leaf [97] .plain { lty := 'f', sty := 'f' }, .dir [98] false true { lty := 'd', sty := 'd' } [.leaf [99] .plain { lty := 'f', sty := 'f' }]]
    (visitsN (refCfg {}) [] 0 root).flatMap (written [116] (.typeIs 'f') (.pathOut [] [0])) =
      [116, 47, 97, 0, 116, 47, 98, 47, 99, 0] := by decide +kernel

open FuModel.Xargs

/-- the entries that satisfy the test, in visit order -/
def matched (c : Config) (t : Prim) (start : Bytes) (n : Node Attr) : List Bytes :=
  ((visitsN (refCfg c) [] 0 n).filter fun v => (sem start v t es0).1).map fun v => pathOf start v.ent.rpath

theorem written_flat (t : Prim) (start : Bytes) (vs : List (Visit Attr))
    (hv : ∀ v ∈ vs, (sem start v t es0).1 = true → FuModel.Utf8.validUtf8 (pathOf start v.ent.rpath) = true) :
    vs.flatMap (written start t (.pathOut [] [0])) =
      ((vs.filter fun v => (sem start v t es0).1).map fun v => pathOf start v.ent.rpath).flatMap (· ++ [0]) := by
  induction vs with
  | nil => rfl
  | cons v vs ih =>
    have ih' := ih (fun x hx => hv x (by simp [hx]))
    simp only [List.flatMap_cons, List.filter_cons]
    cases hb : (sem start v t es0).1
    · simp [written, hb, ih']
    · have hl : FuModel.Utf8.lossy (pathOf start v.ent.rpath) = pathOf start v.ent.rpath := by
        simpa [FuModel.Utf8.validUtf8] using hv v (by simp) hb
      simp [written, hb, outOf, hl, ih']

/-- **The pipeline `find START TEST -print0 | xargs -0 CMD`.**  For every tree, follow mode, depth
    range and traversal order, every test that only looks at the entry, every xargs configuration
    (limits, command) and every behaviour of the commands: if the paths of the matching entries are
    valid UTF-8 (the property's scope), then — whenever xargs completes — the arguments appended to
    its commands, concatenated, are exactly the paths of the in-range reachable entries that satisfy
    the test, in visit order: each delivered to a command once, unmodified, nothing else. -/
theorem C07_pipeline (c : Config) (t : Prim) (ht : isTestP t = true) (start : Bytes) (root : Node Attr)
    (hv : ∀ p ∈ matched c t start (if c.sorted then sortNode root else root),
      FuModel.Utf8.validUtf8 p = true ∧ p ≠ [] ∧ (0 : UInt8) ∉ p)
    (cfg : Xargs.Config) (init : LState) (script : List Outcome) :
    let out := (processDir c (.and [.prim t, .prim (.pathOut [] [0])]) start (some root) {}).gs.out
    let args := (bdAll 0 out).map fun b => (⟨b, .hard⟩ : Xargs.Arg)
    let run := processInput cfg init false ⟨init, []⟩ false false [] script args
    (run.status = 0 ∨ run.status = 123) →
      run.batches.flatten.map (·.bytes) = matched c t start (if c.sorted then sortNode root else root) := by
  intro out args run
  have hout : out = (matched c t start (if c.sorted then sortNode root else root)).flatMap (· ++ [0]) :=
    (C07_whole_walk c t ht [] [0] start root {}).1.trans
      ((List.nil_append _).trans (written_flat t start _ fun v hv' hb =>
        (hv _ (List.mem_map.2 ⟨v, List.mem_filter.2 ⟨hv', hb⟩, rfl⟩)).1))
  clear_value out
  subst hout
  exact C07_delivered_once cfg init script _ fun p hp => (hv p hp).2

end FuModel.Find.Run
