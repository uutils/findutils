import FuModel.Proofs.GlobBase
import FuModel.Proofs.GlobComplete
import FuModel.Proofs.GlobBracket

/-!
# C12 — property theorems (those about the matching mechanism stand in `Proofs/GlobBase.lean` and
# `Proofs/GlobComplete.lean`, the two about the translation here)

* `C12_whole_string` — if `Pattern::matches` is true, the whole subject is in the language of the
  items (never a prefix or substring);
* `C12_mechanism_exact` — and conversely: the engine's greedy backtracking search followed by the
  length comparison decides **exactly** the language of the items, for every item list, subject and
  case mode.  (The converse needs the monotonicity of glob patterns, `mt_mono`; it fails for
  regular expressions with alternation — that is C17's known finding.)
* `C12_any`, `C12_star_all`, `C12_literal`, `C12_lone_backslash` — the readings of `?`, `*`,
  literals and a trailing backslash.

* `C12_bracket_free_exact` — for patterns without `[` the whole pipeline (translation + mechanism) is
  exactly the fnmatch specification (case-sensitive).

* `C12_plain_brackets_exact` — the same for every pattern made of ordinary characters, quoted
  characters, `?`, `*` and *plain* bracket expressions `[` `!`? member+ `]` (members: characters other
  than `] [ \ - ! ^ :`, or ranges between two such characters in order): scanner, validity check and
  the engine's reading of the fragment yield exactly the set the specification parses.

What remains PARTIAL: bracket expressions outside the plain class (classes, quoted or special
members, `]` first, `[` inside) and case folding of the translation, against the fnmatch
specification (`Spec/Fnmatch.lean`) — carried by exhaustive enumeration over small alphabets and
random patterns, with three known findings, all inside such bracket expressions.
-/
namespace FuModel.Find.Glob

/-- for patterns without bracket expressions the translation is the specification: the
    case-sensitive tests -name, -path, -lname are exactly fnmatch, for every such pattern and every
    subject (`?`, `*`, backslash quoting, a trailing backslash, every other character literal —
    regular-expression metacharacters included) -/
theorem C12_bracket_free_exact (p s : List Char) (hb : ∀ c ∈ p, c ≠ '[') :
    (match globMatches false p s with | .ok b => some b | _ => none) = FuModel.Spec.Fnmatch.fnmatch false p s := by
  obtain ⟨ts, lone, hok, rfl⟩ := bracket_free_tokens p hb p (.inl rfl)
  exact glob_toks_is_fnmatch hok lone s

/-- plain bracket expressions included: for every pattern generated by `PTok` (see
    `Proofs/GlobBracket.lean`) the case-sensitive tests are exactly fnmatch, for every subject -/
theorem C12_plain_brackets_exact (ts : List PTok) (hok : ts.all PTok.ok = true) (s : List Char) :
    (match globMatches false (patText ts) s with | .ok b => some b | _ => none) =
      FuModel.Spec.Fnmatch.fnmatch false (patText ts) s := by
  have h := glob_toks_is_fnmatch hok false s
  rw [if_neg Bool.false_ne_true, List.append_nil] at h
  exact h

/-- non-vacuity: `[a-c]*.tx[!t_]\[` is such a pattern -/
example :
    let ts : List PTok := [.set false [.range 'a' 'c'], .star, .lit '.', .lit 't', .lit 'x', .set true [.ch 't', .ch '_'], .esc '[']
    ts.all PTok.ok = true ∧ patText ts = "[a-c]*.tx[!t_]\\[".toList := by decide +kernel

/-- a star in the middle: `a*c` matches exactly the strings that start with `a` and end with `c`
    (two characters at least) — a consequence of exactness, for every subject -/
example : matchesItems false [.lit 'a', .star, .lit 'c'] ['a', 'b', 'c', 'c'] = true ∧
    matchesItems false [.lit 'a', .star, .lit 'c'] ['a', 'c', 'b'] = false := by decide +kernel

end FuModel.Find.Glob
