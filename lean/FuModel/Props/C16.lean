import FuModel.Props.C07

/-!
# C16 — -printf renders escapes, directives, width and justification faithfully

Model: `Find/PrintfFmt.lean` (`FormatStringParser`), `Find/Run.lean` namespace `PrintfR`
(`format_directive`, `Printf::print`).  Reference renderer used as the predicate:
`Spec/PrintfRef.lean`.
-/
namespace FuModel.Find.Run.PrintfR
open FuModel.Find.Printf FuModel.Find.Walk

/-- Literal text — multi-byte characters included — is copied verbatim, components are written in
    order, and nothing is appended at the end. -/
theorem C16_verbatim (start : Bytes) (v : Visit Attr) (t : List Char) (rest : List Comp) :
    render start v (.lit t :: rest) = utf8 t ++ render start v rest ∧ render start v [] = [] :=
  ⟨rfl, rfl⟩

/-- A directive's value is padded with blanks to the minimum width — on the left by default, on the
    right with `-` — and never truncated. -/
theorem C16_padding (w : Nat) (left : Bool) (val : Bytes) :
    ∃ fill : Bytes, (∀ b ∈ fill, b = 32) ∧ fill.length = w - charCount val ∧
      pad (some w) left val = (if left then val ++ fill else fill ++ val) := by
  refine ⟨List.replicate (w - charCount val) 32, ?_, by simp, ?_⟩
  · intro b hb; exact (List.mem_replicate.mp hb).2
  · simp [pad]

theorem C16_no_width (left : Bool) (val : Bytes) : pad none left val = val := rfl

/-- blanks are single characters: the padded value has max(width, characters of the value) characters -/
theorem charCount_append (a b : Bytes) : charCount (a ++ b) = charCount a + charCount b := by
  simp [charCount, List.filter_append]

theorem charCount_blanks (n : Nat) : charCount (List.replicate n (32 : UInt8)) = n := by
  rw [charCount, List.filter_replicate_of_pos (by decide), List.length_replicate]

theorem C16_padded_width (w : Nat) (left : Bool) (val : Bytes) :
    charCount (pad (some w) left val) = max w (charCount val) := by
  have h : w - charCount val + charCount val = max w (charCount val) := by omega
  cases left
  · exact (charCount_append ..).trans (by rw [charCount_blanks, h])
  · exact (charCount_append ..).trans (by rw [charCount_blanks, Nat.add_comm, h])

/-- %p is the path exactly as -print prints it (for paths that are valid UTF-8: both go through
    `to_string_lossy`, which the renderer model does not apply — names that are not valid UTF-8 are
    outside the modelled fragment of -printf). -/
theorem C16_p_is_print (start : Bytes) (v : Visit Attr) (s : ES)
    (hv : FuModel.Utf8.validUtf8 (pathOf start v.ent.rpath) = true) :
    value start v .p = some (pathOf start v.ent.rpath) ∧
    (sem start v (.pathOut [] [10]) s).2.gs.out = s.gs.out ++ pathOf start v.ent.rpath ++ [10] := by
  have hl : FuModel.Utf8.lossy (pathOf start v.ent.rpath) = pathOf start v.ent.rpath := by
    simpa [FuModel.Utf8.validUtf8] using hv
  constructor
  · rfl
  · simp [sem, hl]

theorem intercalate_slash (n : Name) (names : List Name) :
    List.intercalate [47] (n :: names) = n ++ names.flatMap (47 :: ·) := by
  induction names generalizing n with
  | nil => simp [List.intercalate]
  | cons m ms ih =>
    have := ih m
    simp only [List.intercalate, List.intersperse] at this ⊢
    simp_all [List.flatten_cons]

/-- For every entry below a starting point, the starting point as given, a '/' (unless it ends in
    one) and %P recompose %p. -/
theorem C16_recompose (start : Bytes) (v : Visit Attr) (hne : v.ent.rpath ≠ [])
    (hn : ∀ m ∈ v.ent.rpath, NameOk m) (p q : Bytes)
    (hp : value start v .p = some p) (hq : value start v .P = some q) :
    p = start ++ (if endsSlash start then [] else [47]) ++ q := by
  obtain ⟨n, names, hrev, hform⟩ := C07_path_of start v.ent.rpath hne hn
  simp only [value, Option.some.injEq] at hp hq
  rw [← hp, ← hq, hform, hrev, intercalate_slash]
  simp [List.append_assoc]

/-- %d is the depth in decimal; %s %n %i %U %G are the decimal fields of the record the entry's
    tests see (C13); %m is its twelve permission bits in octal (at least three digits). -/
theorem C16_numeric (start : Bytes) (v : Visit Attr) (r : Rec) (t : Char) (h : metaOf v = some (t, r)) :
    value start v .d = some (utf8 (natDigits v.ent.depth)) ∧
    value start v .s = some (utf8 (natDigits r.size)) ∧ value start v .n = some (utf8 (natDigits r.nlink)) ∧
    value start v .i = some (utf8 (natDigits r.ino)) ∧ value start v .U = some (utf8 (natDigits r.uid)) ∧
    value start v .G = some (utf8 (natDigits r.gid)) ∧
    value start v .m = some (utf8 (List.replicate (3 - (octDigits r.perm).length) '0' ++ octDigits r.perm)) := by
  simp [value, h]

/-- %y prints the letter -type accepts: it prints the type letter of the entry as the follow mode
    presents it, and that letter is `c` exactly when `-type c` is true (for the seven type letters). -/
theorem C16_y_agrees_type (start : Bytes) (v : Visit Attr) (s : ES) (c : Char)
    (hc : c = 'f' ∨ c = 'd' ∨ c = 'l' ∨ c = 'p' ∨ c = 's' ∨ c = 'c' ∨ c = 'b') :
    value start v .y = some (utf8 [typeLetterOut (fileType v)]) ∧
    ((sem start v (.typeIs c) s).1 = true ↔ typeLetterOut (fileType v) = c) := by
  refine ⟨rfl, ?_⟩
  simp only [sem, beq_iff_eq]
  unfold typeLetterOut
  constructor
  · intro h; subst h
    rcases hc with h | h | h | h | h | h | h <;> simp [h]
  · intro h
    split at h
    · exact h
    · rcases hc with h' | h' | h' | h' | h' | h' | h' <;> simp [h'] at h

/-- the parser is total: every format string is either parsed or rejected (there is no third
    outcome such as a panic in the model; the slicing that used to panic is checked with `str::get`) -/
theorem C16_parser_total (fmt : List Char) : (parse fmt).isSome ∨ parse fmt = none := by
  cases parse fmt <;> simp

example : (parse "%-5p|\\n%%\\101".toList).map (·.1) =
    some [.dir .p (some 5) true, .lit ['|'], .lit ['\n'], .lit ['%'], .lit ['A']] := by decide +kernel
example : parse "%é".toList = some ([.lit ['é']], false) ∧ parse "\\é".toList = none ∧
    parse "%99999999999999999999d".toList = none := by decide +kernel

end FuModel.Find.Run.PrintfR

namespace FuModel.Find.Run
open FuModel.Find.Walk

/-- **Whole starting point**: `find START TEST -printf FORMAT`, for every tree, depth range,
    traversal order, parsed format and test that only looks at the entry: the bytes written are
    exactly, in visit order, the renderings of the format for the in-range reachable entries that
    satisfy the test — one rendering per such entry, nothing between them.  (`processDir_outM`,
    `Proofs/OutWalk.lean`.) -/
theorem C16_whole_walk (c : Config) (t : Prim) (ht : isTestP t = true)
    (comps : List FuModel.Find.Printf.Comp) (raw : List Char)
    (start : Bytes) (root : Node Attr) (g : GS) :
    let n := if c.sorted then sortNode root else root
    let r := processDir c (.and [.prim t, .prim (.printf comps raw)]) start (some root) g
    r.gs.out = g.out ++ (visitsN (refCfg c) [] 0 n).flatMap (fun v => if (sem start v t es0).1 then PrintfR.render start v comps else []) ∧
      r.quit = false := by
  exact processDir_outM c (.prim t) ht (.printf comps raw) rfl start root g

/-- non-vacuity of `C16_whole_walk`: the literal format `x\n` with `-type f` on a two-level tree —
    the reference side, evaluated by the kernel -/
example :
    let root : Node Attr := .dir [116] false true { lty := 'd', sty := 'd' }
      [.leaf [97] .plain { lty := 'f', sty := 'f' }, .leaf [98] .plain { lty := 'f', sty := 'f' }]
    (visitsN (refCfg {}) [] 0 root).flatMap
        (fun v => if (sem [116] v (.typeIs 'f') es0).1 then PrintfR.render [116] v [.lit ['x', '\n']] else []) =
      [120, 10, 120, 10] := by decide +kernel

end FuModel.Find.Run
