import FuModel.Proofs.DeleteBase

/-!
# C10 — property theorems (one evaluation: `Proofs/DeleteBase.lean`; the lift: `processDir_log`, `Proofs/RunLift.lean`)

* `C10_delete_step`, `C10_links_removed_themselves`, `C10_dir_only_when_empty`, `C10_implies_depth` —
  one evaluation of `-delete`;
* `C10_only_this_entry`, `C10_whole_walk` — nothing but the evaluated entry's own path joins the
  removed set; over a whole starting point nothing outside it is removed;
* `C10_removed_are_visited` — over a whole starting point the removed entries are a subsequence, in
  visit order, of the in-range reachable entries: nothing the walk does not visit, nothing twice.
-/
namespace FuModel.Find.Run
open FuModel.Find.Walk

/-- **Whole starting point**: whatever the expression, the entries removed while `process_dir`
    walks a starting point (post-order, as `-delete` forces) are — appended to those removed
    before — a subsequence, in visit order, of the paths of the in-range reachable entries of this
    starting point: nothing is removed that the walk does not visit (so nothing outside the depth
    range, nothing behind a link that is not followed), nothing twice (those paths are pairwise
    distinct: `visitsN_paths`, `pathsN_nodup`), nothing out of order. -/
theorem C10_removed_are_visited (c : Config) (m : FuModel.Find.Expr.M Prim) (start : Bytes) (root : Node Attr) (g : GS)
    (hpost : (refCfg c).depthFirst = true) :
    let n := if c.sorted then sortNode root else root
    ∃ L, (processDir c m start (some root) g).gs.deleted = g.deleted ++ L ∧
      L.Sublist ((visitsN (refCfg c) [] 0 n).map fun v => pathOf start v.ent.rpath) := by
  intro n
  rw [List.map_eq_flatMap]
  refine (processDir_log c m start root (fun _ => True) GS.deleted _ (book_deleted m) (fun v s _ => ⟨trivial, ?_⟩)
    (fun h => by rw [hpost] at h; cases h) g trivial).2
  rcases eval_delstep m start v s with h | ⟨h, -⟩
  · exact ⟨[], by simp [h], by simp⟩
  · exact ⟨[_], h, by simp⟩

/-- non-vacuity of `C10_removed_are_visited`: `find t -delete` (post-order, no link) — the
    reference side of the statement, evaluated by the kernel -/
example :
    let c : Config := { depthFirst := true }
    let root : Node Attr := .dir [116] false true { lty := 'd', sty := 'd' } [.leaf [97] .plain { lty := 'f', sty := 'f' }]
    (refCfg c).depthFirst = true ∧
      (visitsN (refCfg c) [] 0 root).map (fun v => pathOf [116] v.ent.rpath) = [[116, 47, 97], [116]] := by
  intro c root
  exact ⟨rfl, by decide⟩
end FuModel.Find.Run
