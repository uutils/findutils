import FuModel.Proofs.ExprEval

/-!
# C01 — expression semantics: precedence, short-circuit, default -print, -quit

Model: `Find/Expr.lean` (`build_matcher_tree`, the three builders, the four combinators).
Reference: `Spec/ExprRef.lean` (the grammar of the property as syntax trees `X`, their
rendering to tokens, and the textbook evaluation).  "All expressions derivable from the
grammar" is `∀ l, WF l → …` over the rendering `renderL l`.
-/
namespace FuModel.Find.Expr
variable {P σ : Type}

/-- The parser accepts every sentence of the grammar and builds the tree the grammar
    prescribes (parentheses, then `!`, then -a/juxtaposition, then -o, then `,`). -/
theorem C01_parse (l : List (List (List (X P)))) (h : WF l) : buildTree (renderL l) = .ok (treeL l) := by
  have := run_L l h [] [] St.empty false
  rw [List.append_nil] at this
  rw [buildTree, this, run, stL_build l h]

/-- … and evaluating that tree on a file is the reference evaluation of the expression, for every
    meaning of the primaries and every initial state: same truth value, same final state (hence
    the same sequence of action outputs, prune mark, exit code and quit flag). -/
theorem C01_parse_eval (l : List (List (List (X P)))) (h : WF l) :
    ∃ m, buildTree (renderL l) = .ok m ∧
      ∀ (sem : P → σ → Bool × σ) (quit : σ → Bool) (s : σ), M.eval sem quit m s = refL sem quit l false s :=
  ⟨treeL l, C01_parse l h, fun sem quit s => eval_treeL sem quit l s⟩

/-- `-print` is and-ed to the whole expression iff it contains no action — syntactically: also when
    the only actions are nested, negated or unreachable. -/
theorem C01_default_print (isAction : P → Bool) (print : P) (l : List (List (List (X P)))) (h : WF l) :
    buildTop isAction print (renderL l) =
      .ok (if actL isAction l then treeL l else .and [treeL l, .prim print]) := by
  rw [buildTop, C01_parse l h]
  simp only [hasSE_treeL]
  cases actL isAction l <;> rfl

/-- What the added `-print` does: it is evaluated after the whole expression, exactly when that was
    true and quit has not fired. -/
theorem C01_default_print_eval (sem : P → σ → Bool × σ) (quit : σ → Bool) (m : M P) (print : P) (s : σ) :
    M.eval sem quit (.and [m, .prim print]) s =
      (let r := M.eval sem quit m s
       if !r.1 then (false, r.2) else if quit r.2 then (true, r.2) else
         let r' := sem print r.2
         if !r'.1 then (false, r'.2) else (true, r'.2)) := by
  -- the last member of an `and` is asked for quit to no effect
  have h : ∀ t, evalAnd sem quit [.prim print] t = (if !(sem print t).1 then (false, (sem print t).2) else (true, (sem print t).2)) :=
    fun t => congrArg (ite ((!(sem print t).1) = true) (false, (sem print t).2)) (ite_self (true, (sem print t).2))
  show evalAnd sem quit [m, .prim print] s = _
  rw [evalAnd]
  simp only [h]

/-- Once quit holds nothing further is evaluated for that file: in an evaluation that starts in a
    state without quit, no primary is ever evaluated in a state where quit already holds
    (`instr` counts such evaluations; `instr_M` shows the counting changes nothing else). -/
theorem C01_quit_stops (sem : P → σ → Bool × σ) (quit : σ → Bool) (m : M P) (s : σ) (h : quit s = false) :
    (M.eval (instr sem quit) (quit' quit) m (s, 0)).2.2 = 0 ∧
    ((M.eval (instr sem quit) (quit' quit) m (s, 0)).1, (M.eval (instr sem quit) (quit' quit) m (s, 0)).2.1)
      = M.eval sem quit m s :=
  ⟨late_M sem quit m (s, 0) h, instr_M sem quit m (s, 0)⟩

/-! Non-vacuity: `! ( a -o b ) , c -a x d` is a sentence; it renders and parses as expected. -/
def exampleL : List (List (List (X Nat))) :=
  [[[.not (.group [[[.prim 0], [.prim 1]]])]], [[.prim 2, .a (.prim 9), .prim 3]]]

example : wfL exampleL = true := by decide
example : renderL exampleL =
    [.bang, .lp, .prim 0, .or_, .prim 1, .rp, .comma, .prim 2, .and_, .prim 9, .prim 3] := by decide

end FuModel.Find.Expr
