import FuModel.Spec.RunRef
import FuModel.Proofs.ExecOnceWalk
import FuModel.Proofs.PruneEntered

/-!
# C09 — -exec … ; : one run per file, {} substituted, argv intact, true iff 0

Model: `Find/Run.lean` (`SingleExecMatcher::new`'s `split("{}")`, `matches`' join, the
`./name` + `current_dir(parent)` of `-execdir`).  "Once per file on which the action is reached,
at that point of the evaluation" is C01 (`C01_parse_eval`) applied to this primary.
-/
namespace FuModel.Find.Run
open FuModel.Find.RunRef FuModel.Find.Walk

theorem joinParts_cons (path p : Bytes) (q : Bytes) (qs : List Bytes) :
    joinParts path (p :: q :: qs) = p ++ path ++ joinParts path (q :: qs) := rfl

theorem splitBraces_ne_nil (a cur : Bytes) : splitBraces a cur ≠ [] := by
  fun_induction splitBraces a cur <;> simp_all

/-- general form: the pieces collected so far are a prefix of the first part -/
theorem subst_aux (path a cur : Bytes) :
    joinParts path (splitBraces a cur) = cur.reverse ++ replaceAll path a := by
  fun_induction splitBraces a cur with
  | case1 cur => simp [joinParts, replaceAll]
  | case2 b cur => simp [joinParts, replaceAll]
  | case3 a b rest cur h ih =>
    obtain ⟨q, qs, hq⟩ := List.exists_cons_of_ne_nil (splitBraces_ne_nil rest [])
    rw [replaceAll, if_pos h, hq, joinParts_cons, ← hq, ih]
    simp
  | case4 a b rest cur h ih => rw [ih, replaceAll, if_neg h]; simp

/-- Every occurrence of `{}` in an argument is replaced by the path, left to right, the inserted
    text not rescanned; all other text is unchanged. -/
theorem C09_subst (path a : Bytes) : substArg path a = replaceAll path a := by
  simpa [substArg] using subst_aux path a []

/-- An argument without `{}` reaches the command unchanged. -/
theorem C09_no_braces (path : Bytes) (a : Bytes)
    (h : ∀ pre post, a ≠ pre ++ 123 :: 125 :: post) : replaceAll path a = a := by
  fun_induction replaceAll path a with
  | case1 | case2 => rfl
  | case3 x y rest hb =>
    simp only [Bool.and_eq_true, beq_iff_eq] at hb
    exact absurd (by rw [hb.1, hb.2]; rfl) (h [] rest)
  | case4 x y rest hb ih => rw [ih fun pre post heq => h (x :: pre) post (by rw [heq]; rfl)]

/-- No file name changes the argument structure: the command always gets the program name plus
    exactly one argument per template argument (no word splitting, globbing or quote processing). -/
theorem C09_structure (start : Bytes) (v : Visit Attr) (dir ok : Bool) (cmd : Bytes) (tmpl : List Bytes) (s : ES)
    (e : ExecEvent) (h : e ∈ (sem start v (.exec dir ok cmd tmpl) s).2.gs.execs) (hn : e ∉ s.gs.execs) :
    e.argv.length = tmpl.length + 1 ∧ e.argv.head? = some cmd := by
  rw [sem_exec_eq] at h
  rcases List.mem_append.1 h with h | h
  · exact absurd h hn
  · cases ok
    · cases h
    · cases List.mem_singleton.1 h; simp [eventOf]

/-- The action is true exactly when the command could be started and exited with status 0; find's
    own exit code, the prune and quit marks and the output are untouched. -/
theorem C09_truth (start : Bytes) (v : Visit Attr) (dir ok : Bool) (cmd : Bytes) (tmpl : List Bytes) (s : ES) :
    let r := sem start v (.exec dir ok cmd tmpl) s
    (r.1 = true ↔ ok = true ∧ s.gs.script.headD 0 = 0) ∧
    r.2.exit = s.exit ∧ r.2.prune = s.prune ∧ r.2.quit = s.quit ∧ r.2.gs.out = s.gs.out := by
  simp [sem_exec_eq]

/-- One command per evaluation of the primary (none if it cannot be started). -/
theorem C09_one_run (start : Bytes) (v : Visit Attr) (dir : Bool) (cmd : Bytes) (tmpl : List Bytes) (s : ES) :
    (sem start v (.exec dir true cmd tmpl) s).2.gs.execs =
      s.gs.execs ++ [⟨cmd :: tmpl.map (substArg (execPath dir (pathOf start v.ent.rpath))),
                      execCwd dir (pathOf start v.ent.rpath)⟩] :=
  sem_exec_execs dir cmd tmpl start v s

example : substArg [97, 47, 98] [120, 123, 125, 121, 123, 125, 123] = [120, 97, 47, 98, 121, 97, 47, 98, 123] := by decide

/-- **Whole starting point** for `-exec`/`-execdir CMD ARGS ;`: for an arbitrary expression whose
    only command-running primary is this action, the commands started by `process_dir` over the
    real walk are those started before followed by a subsequence, in visit order, of "the command
    of this entry" (`eventOf`: argument vector with `{}` substituted, working directory) over the
    entries of the starting point — at most one run per entry, none for an entry that is not
    visited, none reordered, none with another entry's path.  (Weighted relation lemma
    over the matcher tree `relW_log`, the lift `processDir_log`.) -/
theorem C09_whole_walk (dir : Bool) (cmd : Bytes) (tmpl : List Bytes) (start : Bytes)
    (c : Config) (m : FuModel.Find.Expr.M Prim) (root : Node Attr) (g : GS)
    (hall : m.AllP (SoleOnce dir cmd tmpl)) (hone : m.weight wT ≤ 1)
    (hwalk : ((refCfg c).depthFirst = false ∧ PruneOkN (refCfg c) (evalEntry m start) [] 0 (if c.sorted then sortNode root else root)) ∨
             (refCfg c).depthFirst = true) :
    let n := if c.sorted then sortNode root else root
    ∃ L, (processDir c m start (some root) g).gs.execs = g.execs ++ L ∧
      L.Sublist ((visitsN (refCfg c) [] 0 n).map (eventOf dir cmd tmpl start)) := by
  intro n
  rw [List.map_eq_flatMap]
  refine (processDir_log c m start root (fun _ => True) GS.execs _ (book_execs (multis_once dir cmd tmpl m hall))
    (fun v s => ?_) (.of_or hwalk) g trivial).2
  -- one evaluation of the expression: each primary starts at most `wT p` commands, all of them this entry's
  refine (Expr.relW_log (sem start v) (·.quit) (SoleOnce dir cmd tmpl) wT (fun _ => True) (fun s : ES => s.gs.execs)
    (eventOf dir cmd tmpl start v) (fun p hp s _ => ⟨trivial, ?_⟩) m hall s).weaken
    (List.replicate_sublist_replicate _ |>.mpr hone)
  rcases hp with hq | rfl
  · exact ⟨[], by simp [((sem_frame start v p s).2.2.1 hq).1], by simp⟩
  · exact ⟨[_], sem_exec_execs dir cmd tmpl start v s, by simp [wT, quiet]⟩

/-- `C09_whole_walk` on a well-formed world: in pre-order no hypothesis on the expression is left
    (`-prune` included) -/
theorem C09_whole_walk_wf (dir : Bool) (cmd : Bytes) (tmpl : List Bytes) (start : Bytes)
    (c : Config) (m : FuModel.Find.Expr.M Prim) (root : Node Attr) (g : GS)
    (hall : m.AllP (SoleOnce dir cmd tmpl)) (hone : m.weight wT ≤ 1)
    (hpre : (refCfg c).depthFirst = false) (hw : wfNode root = true) :
    let n := if c.sorted then sortNode root else root
    ∃ L, (processDir c m start (some root) g).gs.execs = g.execs ++ L ∧
      L.Sublist ((visitsN (refCfg c) [] 0 n).map (eventOf dir cmd tmpl start)) :=
  C09_whole_walk dir cmd tmpl start c m root g hall hone
    (.inl ⟨hpre, pruneOkN_of_wf (refCfg c) m start [] 0 _ (by split; exact wf_sortNode _ hw; exact hw)⟩)

/-- non-vacuity of `C09_whole_walk`: `find t -depth -name a -exec c x{} ;` meets the hypotheses -/
example :
    let m : FuModel.Find.Expr.M Prim := .and [.prim (.name [97]), .prim (.exec false true [99] [[120, 123, 125]])]
    let c : Config := { depthFirst := true }
    let root : Node Attr := .dir [116] false true { lty := 'd', sty := 'd' } [.leaf [97] .plain { lty := 'f', sty := 'f' }]
    m.AllP (SoleOnce false [99] [[120, 123, 125]]) ∧ m.weight wT ≤ 1 ∧
      (refCfg c).depthFirst = true ∧
      (visitsN (refCfg c) [] 0 root).map (eventOf false [99] [[120, 123, 125]] [116]) =
        [⟨[[99], [120, 116, 47, 97]], none⟩, ⟨[[99], [120, 116]], none⟩] := by
  intro m c root
  exact ⟨⟨.inl rfl, .inr rfl, trivial⟩, by decide, rfl, by decide +kernel⟩

/-- **`find START TEST -exec CMD ARGS ;` / `-execdir … ;`, exactly** (`whole_walk_once_exactM`
    in `Proofs/ExecOnceWalk.lean`, for any expression of tests): for every tree, follow mode, depth range and traversal order
    and every test that only looks at the entry, the commands started while `process_dir` walks a
    starting point are those started before followed by exactly one command per in-range reachable
    entry that satisfies the test, in visit order, each with that entry's substituted argument
    vector and working directory (`eventOf`) — whatever the commands return. -/
theorem C09_exact (dir : Bool) (cmd : Bytes) (tmpl : List Bytes) (start : Bytes)
    (t : Prim) (ht : isTestP t = true) (c : Config) (root : Node Attr) (g : GS) :
    let n := if c.sorted then sortNode root else root
    (processDir c (.and [.prim t, .prim (.exec dir true cmd tmpl)]) start (some root) g).gs.execs =
      g.execs ++ (visitsN (refCfg c) [] 0 n).flatMap (ranBy dir cmd tmpl start t) :=
  whole_walk_once_exactM dir cmd tmpl start (.prim t) ht c root g

/-- the right-hand side on a concrete run: `find t -type f -execdir c x{} ;` -/
example :
    let root : Node Attr := .dir [116] false true { lty := 'd', sty := 'd' }
      [.leaf [97] .plain { lty := 'f', sty := 'f' }, .dir [98] false true { lty := 'd', sty := 'd' } [.leaf [99] .plain { lty := 'f', sty := 'f' }]]
    (visitsN (refCfg {}) [] 0 root).flatMap (ranBy true [99] [[120, 123, 125]] [116] (.typeIs 'f')) =
      [⟨[[99], [120, 46, 47, 97]], some [116]⟩, ⟨[[99], [120, 46, 47, 99]], some [116, 47, 98]⟩] := by decide +kernel

end FuModel.Find.Run
