import FuModel.Proofs.WalkRef
import FuModel.Proofs.PruneEntered

/-!
# C03 — visit order: pre/post-order (-depth); -prune cuts exactly one subtree

The order is that of the reference traversal `refNode`/`refKids` (`Spec/WalkRef.lean`): in
pre-order a directory, then its entries in listing order; in post-order its entries, then the
directory; a pruned directory contributes only itself.  The theorems transfer it to the model
of walkdir + `process_dir`.
-/
namespace FuModel.Find.Walk
variable {α σ : Type}

theorem C03_order_pre (c : RefCfg) (ev : Visit α → σ → EvalOut × σ) (hpre : c.depthFirst = false)
    (hp : PruneOk c ev) (root : Node α) (acc : σ) :
    processRoot c ev root acc = (let r := refRoot c ev root ⟨acc, 0, 0⟩; resOf r.1 r.2) :=
  processRoot_pre c ev hpre hp root acc

theorem C03_order_post (c : RefCfg) (ev : Visit α → σ → EvalOut × σ) (hpost : c.depthFirst = true)
    (root : Node α) (hH : ¬ HRootLink c root) (acc : σ) :
    processRoot c ev root acc = (let r := refRoot c ev root ⟨acc, 0, 0⟩; resOf r.1 r.2) :=
  processRoot_postAny c ev hpost root acc

/-- Post-order for every starting point and every evaluator: no configuration is excepted any more
    (`processRoot_postAny`; until `/repo` c5fa7bc a link to a directory under -H was). -/
theorem C03_order_post_any (c : RefCfg) (ev : Visit α → σ → EvalOut × σ) (hpost : c.depthFirst = true)
    (root : Node α) (acc : σ) :
    processRoot c ev root acc = (let r := refRoot c ev root ⟨acc, 0, 0⟩; resOf r.1 r.2) :=
  processRoot_postAny c ev hpost root acc

/-- The shape of the reference in pre-order: the directory is evaluated first; if that asks to
    prune, nothing below it is visited and the walk continues with whatever follows the directory
    (its siblings, other subtrees) — exactly that directory's descendants are left out. -/
theorem C03_prune_exact (c : RefCfg) (ev : Visit α → σ → EvalOut × σ) (hpre : c.depthFirst = false)
    (rp : List Name) (d : Nat) (nm : Name) (l r : Bool) (a : α) (kids : List (Node α)) (A : Acc σ) :
    refNode c ev rp d (.dir nm l r a kids) A =
      (let v := visit c ev rp d (.dir nm l r a kids) A
       if v.2.1 then (true, v.2.2)
       else if v.1 then (false, v.2.2)
       else belowRef c ev rp d ((!l || c.follows d) && decide (d < c.maxDepth)) r kids v.2.2) := by
  rw [refNode, hpre]
  rfl

/-- … and in post-order: everything below, then the directory itself. -/
theorem C03_post_shape (c : RefCfg) (ev : Visit α → σ → EvalOut × σ) (hpost : c.depthFirst = true)
    (rp : List Name) (d : Nat) (nm : Name) (l r : Bool) (a : α) (kids : List (Node α)) (A : Acc σ) :
    refNode c ev rp d (.dir nm l r a kids) A =
      (let b := belowRef c ev rp d ((!l || c.follows d) && decide (d < c.maxDepth)) r kids A
       if b.1 then b
       else
        let v := visit c ev rp d (.dir nm l r a kids) b.2
        (v.2.1, v.2.2)) := by
  rw [refNode, hpost]
  rfl

/-- Under -depth, -prune changes nothing: the traversal is the same as with every prune mark cleared. -/
theorem C03_prune_noop_depth (c : RefCfg) (ev : Visit α → σ → EvalOut × σ) (hpost : c.depthFirst = true)
    (root : Node α) (A : Acc σ) :
    refRoot c (clearPrune ev) root A = refRoot c ev root A :=
  refNode_prune_noop c ev hpost [] 0 root A

/-- The entries of a directory are taken one after another in listing order; a quit stops the rest. -/
theorem C03_siblings_in_order (c : RefCfg) (ev : Visit α → σ → EvalOut × σ) (rp : List Name) (d : Nat)
    (n : Node α) (ns : List (Node α)) (A : Acc σ) :
    refKids c ev rp d (n :: ns) A =
      (let r := refNode c ev (n.name :: rp) d n A
       if r.1 then r else refKids c ev rp d ns r.2) := by
  rw [refKids]

/-- Non-vacuity: pruning `b` in pre-order leaves out `b/c` only; in post-order nothing is left out. -/
example :
    let t : Node Unit := .dir [116] false true () [.dir [98] false true () [.leaf [99] .plain ()], .leaf [100] .plain ()]
    let ev : Visit Unit → List (List Name) → EvalOut × List (List Name) :=
      fun v s => (⟨v.ent.rpath == [[98]], false, 0⟩, s ++ [v.ent.rpath])
    (refRoot ⟨false, 0, 9, .never⟩ ev t ⟨[], 0, 0⟩).2.st = [[], [[98]], [[100]]] ∧
    (refRoot ⟨true, 0, 9, .never⟩ ev t ⟨[], 0, 0⟩).2.st = [[[99], [98]], [[98]], [[100]], []] := by decide

end FuModel.Find.Walk

namespace FuModel.Find.Run
open FuModel.Find.Walk FuModel.Find.Expr

/-- **`-prune` and `-xdev`.**  Whatever the expression, `process_dir` is asked to skip a listing only
    for an entry that is a directory by its own type and was not cut off by `-xdev` (a directory on
    another device than its starting point is yielded by the walk without being entered: there is
    nothing to skip, and skipping would drop its siblings). -/
theorem C03_prune_only_entered (m : M Prim) (start : Bytes) (v : Visit Attr) (g : GS) :
    (evalEntry m start v g).1.prune = true → enteredDir v = true :=
  evalEntry_prune_entered m start v g

/-- … so that on every visit of a well-formed world the request concerns a directory whose listing
    the walk pushed — the hypothesis `PruneOk` of `C03_order_pre`, visit by visit. -/
theorem C03_prune_only_pushed (c : RefCfg) (m : M Prim) (start : Bytes) (v : Visit Attr) (g : GS)
    (hv : VisitTyped c v) (h : (evalEntry m start v g).1.prune = true) :
    match v.ent.node with
    | .dir _ l _ _ _ => (!l || c.follows v.ent.depth) = true
    | .leaf _ _ _ => False :=
  prune_only_pushed c m start v g hv h

/-- **The pre-order statement with no hypothesis on the expression.**  For every expression, every
    option setting (`-xdev`, `-sorted`, depth bounds, follow mode) and every well-formed world
    (`wfNode`: what the driver's parser admits - the shape every observed tree has), `process_dir`
    over walkdir's iterator computes the reference traversal of the tree as the options present it
    (`viewOf`): a directory before its entries, entries in listing order, a pruned directory
    without exactly its descendants, a directory on another device reported but not entered.
    `C03_order_pre`'s hypothesis `PruneOk` is discharged by `C03_prune_only_entered` through the
    visit-relative refinement `processRoot_preN`. -/
theorem C03_order_pre_wf (c : Config) (m : M Prim) (start : Bytes) (root : Node Attr) (g : GS)
    (hpre : c.depthFirst = false) (hw : wfNode root = true) :
    processRoot (refCfg c) (evalEntry m start) (viewOf c root) g =
      (let r := refRoot (refCfg c) (evalEntry m start) (viewOf c root) ⟨g, 0, 0⟩
       resOf r.1 r.2) :=
  processRoot_preN (refCfg c) (evalEntry m start) hpre (viewOf c root)
    (pruneOkN_of_wf (refCfg c) m start [] 0 (viewOf c root) (wf_viewOf c root hw)) g

/-- Non-vacuity, on a whole run: `find r -xdev ( -name m -prune ) -o -print` where `r/m` is a mount
    point (device 2, the rest on device 1) with an entry `s` inside: `r/m` is pruned (not printed),
    its entry is not visited, and its sibling `r/z` is still visited. -/
example :
    let f : Attr := { lty := 'f', sty := 'f', l := { dev := 1 }, s := { dev := 1 } }
    let d (dev : Nat) : Attr := { lty := 'd', sty := 'd', l := { dev := dev }, s := { dev := dev } }
    let t : Node Attr := .dir [] false true (d 1)
      [.leaf [97] .plain f, .dir [109] false true (d 2) [.leaf [115] .plain f], .leaf [122] .plain f]
    (run .never [([114], some t)]
      [.xdev, .tok .lp, .tok (.prim (.name [109])), .tok (.prim .prune), .tok .rp, .tok .or_, .tok (.prim (.pathOut [] [10]))]).map
        (·.gs.out) = some [114, 10, 114, 47, 97, 10, 114, 47, 122, 10] ∧ wfNode t = true := by decide +kernel

/-- every directory node the walk would push (a real directory, or a link to one where links are
    followed) lies on device `dev` -/
def confined (followLinks : Bool) (dev : Nat) : Node Attr → Bool
  | .leaf _ _ _ => true
  | .dir _ l _ a kids => (!(!l || followLinks) || a.s.dev == dev) && confinedK kids
where confinedK : List (Node Attr) → Bool
  | [] => true
  | n :: ns => confined followLinks dev n && confinedK ns

mutual
theorem confined_cutNode (fl : Bool) (dev : Nat) (n : Node Attr) : confined fl dev (cutNode fl dev n) = true := by
  match n with
  | .leaf nm k a => simp [cutNode, confined]
  | .dir nm l r a kids =>
    rw [cutNode]
    cases h : (!l || fl) && a.s.dev != dev
    · simp only [Bool.false_eq_true, if_false, confined, Bool.and_eq_true]
      refine ⟨?_, confined_cutKids fl dev kids⟩
      cases hc : (!l || fl) <;> simp_all
    · rfl
theorem confined_cutKids (fl : Bool) (dev : Nat) (kids : List (Node Attr)) :
    confined.confinedK fl dev (cutKids fl dev kids) = true := by
  match kids with
  | [] => simp [cutKids, confined.confinedK]
  | n :: ns =>
    simp only [cutKids, confined.confinedK, Bool.and_eq_true]
    exact ⟨confined_cutNode fl dev n, confined_cutKids fl dev ns⟩
end

/-- **`-xdev` confines the walk.**  In the tree `-xdev` presents (`cutRoot`), every directory below
    the starting point whose listing the walk pushes lies on the starting point's device: a
    directory elsewhere is an entry (it is reported) that is never entered.  With C02's refinement
    (the visits are those of the reference traversal of this tree) nothing on another file system
    is visited except the mount points themselves. -/
theorem C03_xdev_confined (f : Follow) (nm : Name) (l r : Bool) (a : Attr) (kids : List (Node Attr)) :
    ∃ kids', cutRoot f (.dir nm l r a kids) = .dir nm l r a kids' ∧
      confined.confinedK (f == .always) a.s.dev kids' = true :=
  ⟨cutKids (f == .always) a.s.dev kids, rfl, confined_cutKids _ _ _⟩

/-- `viewOf` is the tree `process_dir` walks: `run` hands it the starting point as `-xdev` presents
    it (`cutRoot`), `process_dir` sorts the listings under `-sorted` - so `C03_order_pre_wf` and
    `C03_order_post_any` are statements about the walk `run` performs on each starting point. -/
theorem C03_processDir_view (c : Config) (m : M Prim) (start : Bytes) (root : Node Attr) (g : GS) :
    processDir c m start (some (if c.xdev then cutRoot c.follow root else root)) g =
      (let r := processRoot (refCfg c) (evalEntry m start) (viewOf c root) { g with curDir := none }
       let f := finishDir m r.st
       ⟨f.1, if f.2 then 1 else r.ret, r.quit, r.diags⟩) := rfl

end FuModel.Find.Run
