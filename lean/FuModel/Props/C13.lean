import FuModel.Proofs.Perm
import FuModel.Spec.WalkRef

/-!
# C13 — the type, perm, owner and link tests are functions of the right stat record

Model: `Find/Run.lean` (`WalkEntry::metadata` / `file_type`, `Follow::metadata`, the matchers),
`Find/Perm.lean` (`-perm` operand parsing over a model of uucore's mode parser).
-/
namespace FuModel.Find.Run
open FuModel.Find.Walk FuModel.Find.Perm

/-- the status record the follow mode selects, from the property text: lstat under -P; stat —
    falling back to lstat for a dangling link — under -L; under -H stat for starting points only.
    `none` = the status cannot be obtained (too many levels of symbolic links). -/
def recordSpec (f : Follow) (depth : Nat) (a : Attr) : Option (Char × Rec) :=
  let stat : Option (Char × Rec) :=
    if a.sty == 'L' then none else if a.sty == 'N' then some (a.lty, a.l) else some (a.sty, a.s)
  match f with
  | .never => some (a.lty, a.l)
  | .always => stat
  | .roots => if depth == 0 then stat else some (a.lty, a.l)

/-- what the observation pass guarantees about a node and its records -/
def AttrOk : Node Attr → Prop
  | .leaf _ .plain a => a.sty = a.lty ∧ a.s = a.l ∧ a.lty ≠ 'N' ∧ a.lty ≠ 'L'
  | .leaf _ .linkFile a => a.sty ≠ 'N' ∧ a.sty ≠ 'L'
  | .leaf _ .linkDangling a => a.sty = 'N'
  | .leaf _ .linkLoop _ => True
  | .dir _ false _ a _ => a.sty = a.lty ∧ a.s = a.l ∧ a.lty ≠ 'N' ∧ a.lty ≠ 'L'
  | .dir _ true _ a _ => a.sty = 'd'

def nodeAttr : Node Attr → Attr
  | .leaf _ _ a => a
  | .dir _ _ _ a _ => a

/-- Every test that looks at the status record sees the record the follow mode selects: for every
    entry view the traversal hands to the expression (every node kind, depth and follow mode;
    a link closing a cycle is never evaluated where it would be followed). -/
theorem C13_record (c : RefCfg) (rp : List Name) (d : Nat) (n : Node Attr) (hok : AttrOk n)
    (hloop : ∀ nm a, n = .leaf nm .linkLoop a → c.follows d = false) :
    metaOf (mkVisit c rp d n) = recordSpec c.follow d (nodeAttr n) := by
  cases n with
  | leaf nm k a =>
    have hl := hloop nm a
    cases k <;> simp only [AttrOk] at hok <;> cases hf : c.follow <;> cases hd : (d == 0) <;>
      simp [mkVisit, metaOf, recordSpec, attrOf, nodeAttr, followAt, RefCfg.follows, LeafKind.isLink, hf, hd, hok] at hl ⊢
  | dir nm l r a kids =>
    cases l <;> simp only [AttrOk] at hok <;> cases hf : c.follow <;> cases hd : (d == 0) <;>
      simp [mkVisit, metaOf, recordSpec, attrOf, nodeAttr, followAt, hf, hd, hok]

/-- -links, -inum, -uid, -gid (and -user, -group, which are -uid, -gid after the name lookup) and
    -perm are functions of that record and of nothing else. -/
theorem C13_tests_pure (start : Bytes) (v : Visit Attr) (s : ES) (f : StatField) (cmp : FuModel.Find.Cmp)
    (k : PermKind) (m : Nat) :
    (sem start v (.statCmp f cmp) s = ((match metaOf v with | some (_, r) => cmp.matches (r.field f) | none => false), s)) ∧
    (sem start v (.perm k m) s = ((match metaOf v with | some (_, r) => permMatch k m r.perm | none => false), s)) :=
  ⟨rfl, rfl⟩

/-- -perm MODE: the twelve bits equal MODE; -perm -MODE: every bit of MODE is set; -perm /MODE:
    some bit of MODE is set, or MODE is 0. -/
theorem C13_perm_modes (m v : Nat) :
    (permMatch .exact m v = true ↔ v % 4096 = m) ∧
    (permMatch .atLeast m v = true ↔ v &&& m = m) ∧
    (permMatch .anyOf m v = true ↔ m = 0 ∨ v &&& m ≠ 0) := by
  simp [permMatch]

/-- Symbolic and octal spellings of the same mode are interchangeable: for each of the 4096 modes
    the octal spelling and the spelling `u=…,g=…,o=…` parse to that mode (`Proofs/Perm.lean`: octal
    digits are positional notation, each clause `who=perms` overwrites the bits of `who`). -/
theorem C13_perm_spelling :
    (List.range 4096).all (fun m => parseMode (octalSpelling m) == some m && parseMode (symbolicSpelling m) == some m) = true := by
  simp only [List.all_eq_true, List.mem_range, Bool.and_eq_true, beq_iff_eq]
  exact fun m h => ⟨parseMode_octalSpelling h, parseMode_symbolicSpelling h⟩

/-- … with each of the three prefixes. -/
theorem C13_perm_prefix (rest : List Char) (m : Nat) (h : parseMode rest = some m) :
    parsePerm ('-' :: rest) = some (.atLeast, m) ∧ parsePerm ('/' :: rest) = some (.anyOf, m) := by
  simp [parsePerm, splitKind, h]

/-- -xtype makes the opposite choice from -type: where the entry's own view follows links it looks
    at the link itself, and where the view does not follow it looks through the link (a dangling
    link is then still a link; too many levels of links count as a link). -/
theorem C13_xtype_flips (v : Visit Attr) :
    xtypeOf v =
      (if followAt v.follow v.ent.depth then some (attrOf v).lty
       else if fileType v != 'l' then some (fileType v)
       else if (attrOf v).sty == 'N' then some 'l'
       else if (attrOf v).sty == 'L' then none else some (attrOf v).sty) := rfl

/-- -lname sees a symbolic link only where the link itself is the entry: it is false for every
    entry whose type, as the follow mode presents it, is not "link". -/
theorem C13_lname_needs_link (start : Bytes) (v : Visit Attr) (s : ES) (l : Bytes)
    (h : (sem start v (.lname l) s).1 = true) : fileType v = 'l' ∧ (attrOf v).target = l := by
  simpa [sem] using h

/-- -empty: a regular file of size 0 or a directory without entries, judged on the entry's own view. -/
theorem C13_empty (start : Bytes) (v : Visit Attr) (s : ES) :
    (sem start v .empty s).1 =
      (if fileType v == 'f' then (match metaOf v with | some (_, r) => r.size == 0 | none => false)
       else if fileType v == 'd' then (match v.ent.node with | .dir _ _ _ _ kids => kids.isEmpty | _ => false)
       else false) := rfl

example : parsePerm "-u=rwx,go=w".toList = some (.atLeast, 0o722) := by decide +kernel
example : permMatch .anyOf 0 0o644 = true ∧ permMatch .exact 0o4755 0o104755 = true ∧ permMatch .atLeast 0o111 0o644 = false := by decide

end FuModel.Find.Run
