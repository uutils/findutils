import FuModel.Proofs.WalkRef
import FuModel.Proofs.WalkOnce

/-!
# C02 — traversal: every in-range entry exactly once under -P, -H, -L

Model: `Find/Walk.lean` (walkdir's `IntoIter::next` as a step machine with its two stacks, and
`process_dir`'s loop with the depth guard).  Reference: `Spec/WalkRef.lean` (plain recursive
descent written from the property text).  The theorems here hold for every tree, every
evaluator and every configuration (`HRootLink`, a link starting point under -H in post-order, was
the one exception - a known finding - until `/repo` c5fa7bc; `C02_refines_post_any` has none).
-/
namespace FuModel.Find.Walk
variable {α σ : Type}

/-- The walk terminates on every tree, cycles through links included: every step of the iterator
    decreases a measure of the machine state (so `loop` is a total function; a link closing a
    cycle is a leaf of the unfolded tree and yields an error item instead of a descent). -/
theorem C02_walk_terminates (o : Opts) (S : MState α) :
    (∀ S', step o S = .cont S' → S'.mu < S.mu) ∧ (∀ i S', step o S = .yield i S' → S'.mu < S.mu) :=
  step_mu o S

/-- Pre-order: what `process_dir` evaluates, in which order and with which entry views, the
    diagnostics it counts and its status are exactly those of the reference traversal — every entry
    whose depth is in range and that is reachable under the follow mode, once. -/
theorem C02_refines_pre (c : RefCfg) (ev : Visit α → σ → EvalOut × σ) (hpre : c.depthFirst = false)
    (hp : PruneOk c ev) (root : Node α) (acc : σ) :
    processRoot c ev root acc = (let r := refRoot c ev root ⟨acc, 0, 0⟩; resOf r.1 r.2) :=
  processRoot_pre c ev hpre hp root acc

/-- Post-order (-depth): the same.  The hypothesis `hH` (not a link to a directory under -H) is not
    needed: the walk machine defers such a starting point like any directory (`C02_refines_post_any`). -/
theorem C02_refines_post (c : RefCfg) (ev : Visit α → σ → EvalOut × σ) (hpost : c.depthFirst = true)
    (root : Node α) (hH : ¬ HRootLink c root) (acc : σ) :
    processRoot c ev root acc = (let r := refRoot c ev root ⟨acc, 0, 0⟩; resOf r.1 r.2) :=
  processRoot_postAny c ev hpost root acc

/-- Post-order with no exception: since `process_dir` walks `LINK/` for a starting point that is a
    link to a directory under -H (`/repo` c5fa7bc; the walk machine defers such a root like any
    directory), the refinement holds for every starting point. -/
theorem C02_refines_post_any (c : RefCfg) (ev : Visit α → σ → EvalOut × σ) (hpost : c.depthFirst = true)
    (root : Node α) (acc : σ) :
    processRoot c ev root acc = (let r := refRoot c ev root ⟨acc, 0, 0⟩; resOf r.1 r.2) :=
  processRoot_postAny c ev hpost root acc

/-- mindepth > maxdepth: nothing at all is evaluated (the evaluator's state is untouched), whatever
    the tree; diagnostics for unreadable parts may still be produced. -/
theorem C02_empty_range (c : RefCfg) (ev : Visit α → σ → EvalOut × σ) (h : c.minDepth > c.maxDepth)
    (root : Node α) (A : Acc σ) :
    (refRoot c ev root A).1 = false ∧ (refRoot c ev root A).2.st = A.st :=
  refNode_empty_range c ev h [] 0 root A

/-- **Exactly once.**  With the evaluator that merely records the entry it is called on, the real
    walk (walkdir's iterator under `process_dir`'s loop and depth guard) records precisely the list
    `pathsN` of in-range entries reachable under the follow mode, and — the names inside every
    directory being distinct, as in a file system — that list has no repetition: every in-range entry
    is evaluated once, none twice, none outside the range.  Holds for every tree, every depth range
    and the three follow modes, in pre-order and in post-order. -/
theorem C02_exactly_once (c : RefCfg) (root : Node α) (hd : distinctN root) :
    (processRoot c logEv root []).st = pathsN c [] 0 root ∧ (pathsN c [] 0 root).Nodup := by
  refine ⟨?_, pathsN_nodup c [] 0 root hd⟩
  have := (processRoot_exact c logEv id _ logEv_exact root []).1
  rwa [← List.map_eq_flatMap, visitsN_paths] at this

/-- every recorded path lies below the starting point it was reached from: it extends the path
    of the node whose subtree produced it -/
theorem C02_paths_below (c : RefCfg) (rp : List Name) (d : Nat) (n : Node α) :
    ∀ p ∈ pathsN c rp d n, ∃ e, p = e ++ rp := pathsN_suffix c rp d n

/-- Non-vacuity: a two-level tree, -maxdepth 1 (the reference on a concrete run; `loop` itself is
    defined by well-founded recursion and does not reduce in the kernel, the refinement theorems
    carry the result over). -/
example :
    let t : Node Unit := .dir [116] false true () [.leaf [97] .plain (), .dir [98] false true () [.leaf [99] .plain ()]]
    let c : RefCfg := ⟨false, 0, 1, .never⟩
    let ev : Visit Unit → List (List Name) → EvalOut × List (List Name) := fun v s => (⟨false, false, 0⟩, s ++ [v.ent.rpath])
    (refRoot c ev t ⟨[], 0, 0⟩).2.st = [[], [[97]], [[98]]] := by decide

/-- **`-depth` changes the order, never the set.**  For every tree (sibling names distinct), depth
    range and follow mode, what the real walk evaluates in post-order is a permutation of what it
    evaluates in pre-order: the same in-range reachable entries, each once (with
    `C02_exactly_once`: both lists are duplicate-free). -/
theorem C02_depth_same_entries (c : RefCfg) (root : Node α) (hd : distinctN root) :
    (processRoot { c with depthFirst := true } logEv root []).st.Perm
      (processRoot { c with depthFirst := false } logEv root []).st := by
  rw [(C02_exactly_once _ root hd).1, (C02_exactly_once _ root hd).1]
  exact pathsN_order_perm { c with depthFirst := false } { c with depthFirst := true } rfl rfl rfl [] 0 root

/-- non-vacuity: the two orders on a two-level tree (reference side, kernel evaluation) -/
example :
    let t : Node Unit := .dir [116] false true () [.leaf [97] .plain (), .dir [98] false true () [.leaf [99] .plain ()]]
    pathsN ⟨true, 0, 5, .never⟩ [] 0 t = [[[97]], [[99], [98]], [[98]], []] ∧
      pathsN ⟨false, 0, 5, .never⟩ [] 0 t = [[], [[97]], [[98]], [[99], [98]]] := by decide

end FuModel.Find.Walk
