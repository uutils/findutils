import FuModel.Proofs.XargsReplace
import FuModel.Proofs.XargsExec

/-!
C20: replace mode (`-I R`, `-i`, `--replace`).  One command per input line, R replaced by
the whole line in every initial argument, empty input runs nothing, and the rule that
decides between `-n`, `-L` and the replace options (the last one wins, except that a
replace option together with `-n 1` and no `-L` is no conflict).
-/
namespace FuModel.Xargs

/-- Why `C20_one_run_per_line` needs its hypothesis `hr`: for an arbitrary configuration with
    `-r` off and no input line at all the main loop still runs the command once (with no appended
    argument), so `batches = [[]]`, not `[]`.  Replace mode always has `r` on (`xargsMain`,
    after the `fix:` for the empty-input panic), which is what `C20_empty_ok` uses. -/
theorem C20_without_r_empty_input_runs_once :
    ¬ (∀ (cfg : Config) (init : LState) (script : List Outcome) (lines : List (List UInt8)),
        cfg.lim.n = some 1 → cfg.lim.l = none →
        (∀ l ∈ lines, fitsB cfg.lim init [⟨l, .hard⟩] = true) →
        (∀ o ∈ script, o.isFatal = false) →
        (processInput cfg init false ⟨init, []⟩ false false [] script
            (lines.map (fun l => (⟨l, .hard⟩ : Arg)))).batches
          = lines.map (fun l => [(⟨l, .hard⟩ : Arg)])) := by
  intro h
  have h' := h ⟨⟨some 1, none, none, 1000, 8, 131072⟩, false, false, none⟩ LState.zero [] []
    rfl rfl (by simp) (by simp)
  revert h'
  decide

/-- Replace mode (`-n 1`, no `-L`, `-r` implied): one command per input line, in order, each with
    exactly that line as its only appended argument — blanks inside a line do not split it
    (lines are whole arguments here) — as long as no child outcome is fatal.
    `hr`: `-r` is in force (as it always is in replace mode, see `xargsMain`) or there is at
    least one line. -/
theorem C20_one_run_per_line (cfg : Config) (init : LState) (script : List Outcome)
    (lines : List (List UInt8))
    (hn : cfg.lim.n = some 1) (hl : cfg.lim.l = none)
    (hr : cfg.r = true ∨ lines ≠ [])
    (hfit : ∀ l ∈ lines, fitsB cfg.lim init [⟨l, .hard⟩] = true)
    (hnf : ∀ o ∈ script, o.isFatal = false) :
    (processInput cfg init false ⟨init, []⟩ false false [] script
        (lines.map (fun l => (⟨l, .hard⟩ : Arg)))).batches
      = lines.map (fun l => [(⟨l, .hard⟩ : Arg)]) := by
  rw [processInput_eq_exec, exec_batches_of_no_fatal _ _ _ _ _ hnf]
  cases lines with
  | nil =>
    rcases hr with hr | hr
    · simp [plan, hr]
    · exact absurd rfl hr
  | cons l ls =>
    have hok := tryArg_ok_of_accepts ((fitsB_singleton_iff _ _ _).1 (hfit l (by simp)))
    simp only [List.map_cons, plan, hok, List.nil_append]
    rw [plan_pending cfg init hn ls _ _ (by simp [stepState]) (fun l' hl' => hfit l' (by simp [hl']))]

/-- The argv of a replace-mode command: the program, then every initial argument with R replaced
    by the whole line; nothing is appended. -/
theorem C20_argv (prog : List UInt8) (initial : List (List UInt8)) (R line : List UInt8) (k : Kind) :
    argvOf (prog :: initial) (some R) [⟨line, k⟩] = prog :: initial.map (replaceIn R line) := rfl

/-- An initial argument without R is passed unchanged. -/
theorem C20_replace_absent (pat rep s : List UInt8) (hp : pat ≠ []) (h : ¬ occursIn pat s) :
    replaceIn pat rep s = s :=
  replaceAll_absent pat rep _ s h

/-- Every occurrence is replaced, left to right, and the inserted line is not rescanned
    (a line containing R itself is inserted verbatim): the first occurrence of `pat` is
    replaced by `rep` and replacement continues after it. -/
theorem C20_replace_first (pat rep pre post : List UInt8) (hp : pat ≠ [])
    (h : ¬ occursIn pat (pre ++ pat.dropLast)) :
    replaceIn pat rep (pre ++ pat ++ post) = pre ++ rep ++ replaceIn pat rep post := by
  induction pre with
  | nil =>
    obtain ⟨p, ps, rfl⟩ := List.exists_cons_of_ne_nil hp
    have hpre : (p :: ps).isPrefixOf (p :: (ps ++ post)) = true :=
      List.isPrefixOf_iff_prefix.2 ⟨post, rfl⟩
    simp [replaceIn_cons, hpre]
  | cons c pre ih =>
    have hnp := not_isPrefixOf_of_first post (List.cons_ne_nil c pre) h
    simp only [List.cons_append] at hnp ⊢
    rw [replaceIn_cons, hnp, ih fun hc => h (occursIn_cons _ _ _ hc)]
    simp

theorem mainRun_empty (opts : List Opt) (cmd : List (List UInt8)) (script : List Outcome)
    (sys : Nat) (init : LState) (hrep : (normalize opts).replace.isSome = true) :
    mainRun opts cmd [] script sys init = ⟨0, []⟩ := by
  obtain ⟨d, hd⟩ := normalize_delim_of_replace opts hrep
  simp [mainRun, hd, readInput, bdAll, bdFrom, processInput, hrep]

/-- Empty input in replace mode runs nothing and is not an error. -/
theorem C20_empty (opts : List Opt) (cmd : List (List UInt8)) (script : List Outcome) (sys : Nat)
    (hrep : (normalize opts).replace.isSome = true) :
    xargsMain opts cmd [] script sys = ⟨0, []⟩ ∨ xargsMain opts cmd [] script sys = ⟨1, []⟩ := by
  rw [xargsMain_eq]
  split
  · exact Or.inr rfl
  · split
    · exact Or.inr rfl
    · exact Or.inl (mainRun_empty opts cmd script sys _ hrep)

/-- …and it is status 0 whenever the options are acceptable and the command itself fits. -/
theorem C20_empty_ok (opts : List Opt) (cmd : List (List UInt8)) (script : List Outcome) (sys : Nat)
    (hrep : (normalize opts).replace.isSome = true)
    (hutf : cmd.any (fun w => !FuModel.Utf8.validUtf8 w) = false)
    (hdup : dupOpts opts = false)
    (hpos : opts.any (fun | .n 0 => true | .l 0 => true | .s 0 => true | _ => false) = false)
    (hfit : (initState ⟨(normalize opts).n, (normalize opts).l,
               lastVal opts (fun | .s v => some v | _ => none), sys, 8, 131072⟩ LState.zero cmd).isSome = true) :
    xargsMain opts cmd [] script sys = ⟨0, []⟩ := by
  obtain ⟨init, hinit⟩ := Option.isSome_iff_exists.mp hfit
  rw [xargsMain_eq, hutf, hdup]
  split
  · rename_i h
    exact absurd (hpos.symm.trans h) (by simp)
  · rw [show initState (mainLim opts sys) LState.zero cmd = _ from hinit]
    exact mainRun_empty opts cmd script sys init hrep

/-- Mode selection, replace last: if a replace option (-I, -i, --replace) is given after the last
    -n and after the last -L, the run is in replace mode (one argument per command, no line limit). -/
theorem C20_mode_replace_last (opts : List Opt) (i : Nat)
    (hi : lastIndex opts Opt.isRepl = some i)
    (hn : ∀ j, lastIndex opts Opt.isN = some j → j < i)
    (hl : ∀ j, lastIndex opts Opt.isL = some j → j < i) :
    (normalize opts).replace.isSome = true ∧ (normalize opts).n = some 1 ∧ (normalize opts).l = none := by
  have hR : lastVal opts rProj ≠ none := by rw [Ne, ← lastIndex_R_none, hi]; simp
  obtain ⟨h1, h2, h3⟩ := normalize_of_sel (sel_replace_last hi hR hn hl)
  exact ⟨h3 ▸ Option.isSome_iff_ne_none.2 hR, h1, h2⟩

/-- Mode selection, -L last: replace mode is off and only the line limit is in force. -/
theorem C20_mode_lines_last (opts : List Opt) (i : Nat)
    (hi : lastIndex opts Opt.isL = some i)
    (hn : ∀ j, lastIndex opts Opt.isN = some j → j < i)
    (hr : ∀ j, lastIndex opts Opt.isRepl = some j → j < i) :
    (normalize opts).replace = none ∧ (normalize opts).n = none ∧
      (normalize opts).l = lastVal opts (fun | .l v => some v | _ => none) := by
  have hL : lastVal opts lProj ≠ none := by rw [Ne, ← lastIndex_L_none, hi]; simp
  obtain ⟨h1, h2, h3⟩ := normalize_of_sel (sel_lines_last hi hL hn hr)
  exact ⟨h3, h1, h2⟩

/-- Mode selection, -n last with a real conflict (a -L is present, or the value is not 1):
    replace mode is off and only the argument limit is in force. -/
theorem C20_mode_args_last (opts : List Opt) (i v : Nat)
    (hi : lastIndex opts Opt.isN = some i)
    (hv : lastVal opts (fun | .n v => some v | _ => none) = some v)
    (hl : ∀ j, lastIndex opts Opt.isL = some j → j < i)
    (hr : ∀ j, lastIndex opts Opt.isRepl = some j → j < i)
    (hconf : v ≠ 1 ∨ (lastIndex opts Opt.isL).isSome = true ∨ (lastIndex opts Opt.isRepl) = none) :
    (normalize opts).replace = none ∧ (normalize opts).n = some v ∧ (normalize opts).l = none := by
  obtain ⟨h1, h2, h3⟩ := normalize_of_sel (opts := opts)
    (sel_args_last hi hv (lastIndex_L_none opts) (lastIndex_R_none opts) hl hr hconf)
  exact ⟨h3, h1, h2⟩

/-- -I together with -n 1 (and no -L) is not a conflict, in either order: replace mode. -/
theorem C20_mode_replace_with_n1 (opts : List Opt)
    (hr : (lastIndex opts Opt.isRepl).isSome = true)
    (hn : lastVal opts (fun | .n v => some v | _ => none) = some 1)
    (hl : lastIndex opts Opt.isL = none) :
    (normalize opts).replace.isSome = true ∧ (normalize opts).n = some 1 ∧ (normalize opts).l = none := by
  have hR : lastVal opts rProj ≠ none := by
    rw [Ne, ← lastIndex_R_none]; intro hc; simp [hc] at hr
  obtain ⟨h1, h2, h3⟩ := normalize_of_sel (opts := opts)
    (sel_replace_with_n1 _ _ _ hn ((lastIndex_L_none opts).1 hl) hR)
  exact ⟨h3 ▸ Option.isSome_iff_ne_none.2 hR, h1, h2⟩

/-! ### Concrete instances -/

/-- `-I {}` with `echo a{}b{}` on the two lines `p q` and `{}`: blanks stay inside the
    argument, both occurrences are replaced, an inserted `{}` is not rescanned. -/
example :
    xargsMain [.replI [123, 125]] [[101], [97, 123, 125, 98, 123, 125]]
      [112, 32, 113, 10, 123, 125, 10] [] 100000
    = ⟨0, [[[101], [97, 112, 32, 113, 98, 112, 32, 113]],
           [[101], [97, 123, 125, 98, 123, 125]]]⟩ := by decide +kernel

/-- overlapping candidates: left to right, non-overlapping (`aa` in `aaa` once) -/
example : replaceIn [97, 97] [120] [97, 97, 97, 98, 97, 97] = [120, 97, 98, 120] := by decide +kernel

/-- the last of -L, -I, -n wins -/
example : (normalize [.l 2, .n 3, .replI [95]]).replace = some [95] ∧
    (normalize [.l 2, .n 3, .replI [95]]).n = some 1 ∧
    (normalize [.l 2, .n 3, .replI [95]]).l = none := by decide +kernel

example : (normalize [.replI [95], .n 3, .l 2]) = ⟨none, some 2, none, none⟩ := by decide +kernel

example : (normalize [.replI [95], .l 2, .n 1]) = ⟨some 1, none, none, none⟩ := by decide +kernel

/-- `-n 1` after `-I` (no `-L`) keeps replace mode -/
example : (normalize [.repl none, .n 1]) = ⟨some 1, none, some [123, 125], some 10⟩ := by decide +kernel

/-- empty input, `-i`: nothing runs, status 0 -/
example : xargsMain [.repl none] [[101], [123, 125]] [] [.exit 1] 100000 = ⟨0, []⟩ := by decide +kernel

/-- a failing child does not stop the run; status 123 -/
example :
    xargsMain [.replI [37]] [[101], [37]] [49, 10, 50, 10] [.exit 1] 100000
    = ⟨123, [[[101], [49]], [[101], [50]]]⟩ := by decide +kernel

/-- **-s in replace mode.**  Every command `xargs -I R -s S CMD …` starts has at most S characters
    after substitution, counting every word with its terminator - however many occurrences of R
    were replaced. -/
theorem C20_max_chars (opts : List Opt) (cmd : List (List UInt8)) (input : List UInt8)
    (script : List Outcome) (sys : Nat) (R : List UInt8) (hR : (normalize opts).replace = some R)
    (S : Nat) (hS : sOptOf opts = some S) :
    ∀ av ∈ (xargsMain opts cmd input script sys).argvs, (av.map (fun a => cost a)).sum ≤ S := by
  obtain ⟨lim, _, _, _, hs, h⟩ := main_replace_fits opts cmd input script sys R hR
  intro av hav
  obtain ⟨b, rfl, hb⟩ := h av hav
  unfold substFits at hb
  obtain ⟨init, hinit⟩ := Option.isSome_iff_exists.mp hb
  rw [initState_eq_foldTry] at hinit
  obtain ⟨h1, _, _, h4, _⟩ := foldTry_sizes hinit
  have := h4 S (hs.trans hS) (Nat.zero_le _)
  simpa [h1, LState.zero, totalCost, Function.comp_def] using this

/-- the statement on a concrete run: `printf 'dogu\nab\n' | xargs -I{} -s 17 cmd {}{} {}` - the first
    line would give 3+1 + 8+1 + 4+1 = 18 characters: nothing is run, status 1; with `-s 18` it runs,
    and the second line too -/
example :
    xargsMain [.replI [123, 125], .s 17] [[99, 109, 100], [123, 125, 123, 125], [123, 125]] [100, 111, 103, 117, 10, 97, 98, 10] [] 2091065
      = ⟨1, []⟩ ∧
    (xargsMain [.replI [123, 125], .s 18] [[99, 109, 100], [123, 125, 123, 125], [123, 125]] [100, 111, 103, 117, 10, 97, 98, 10] [] 2091065).argvs
      = [[[99, 109, 100], [100, 111, 103, 117, 100, 111, 103, 117], [100, 111, 103, 117]], [[99, 109, 100], [97, 98, 97, 98], [97, 98]]] := by
  decide +kernel

end FuModel.Xargs
