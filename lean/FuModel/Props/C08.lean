import FuModel.Proofs.ExecBatch
import FuModel.Proofs.ExecLossless
import FuModel.Proofs.ExecWalk
import FuModel.Proofs.PruneEntered
import FuModel.Proofs.WalkOnce

/-!
# C08 — property theorems (proofs in `Proofs/ExecBatch.lean`, `Proofs/ExecLossless.lean`)

* `C08_new_batch`, `C08_try_arg`, `C08_refused_iff` — the accounting of one command line: a path is
  appended at the end, and refused only when it does not fit what is left;
* `C08_os_accepts` — every command line built this way satisfies the kernel's acceptance predicate;
* `C08_step_lossless` — one evaluation of the action appends exactly the current entry's path to
  the sequence "already delivered ++ waiting" (or, if the path fits on no command line, leaves the
  sequence alone and sets find's status to 1);
* `C08_finished_dir_lossless`, `C08_finish_lossless` — leaving a directory (`-execdir`) and the end of
  the walk dispatch the open batch: the sequence is unchanged and nothing is left waiting — "every
  pending invocation has run by the time find exits".

* `C08_whole_walk` — the lift over a whole starting point: for an arbitrary expression whose only
  command-running primary is the `+` action, `process_dir` over the real walk (walkdir's iterator,
  the depth guard, `finished_dir` at every change of directory, `finished` at the end) delivers what
  was handed over before followed by a subsequence, in visit order, of the entries of the starting
  point — nothing twice, nothing foreign, nothing left waiting.  (Weighted relation lemma over
  `M.eval`, `relW_M`; the lift over bookkeeping and traversal, `processDir_log`.)

*Which* entries reach the action (those for which the tests before it are true) is C01 for this
primary; with several command-running primaries in one expression, and for the working directories
of `-execdir` batches, the comparison is carried by the correspondence runs.
-/
namespace FuModel.Find.Run
open FuModel.Find.Walk

/-- **A whole starting point.**  `process_dir` over the real walk (walkdir's iterator, the depth
    guard, the `current_dir` bookkeeping with `finished_dir`, then `finished`), for an arbitrary
    expression whose only command-running primary is one `-exec`/`-execdir CMD FIXED {} +`: the
    paths delivered to started commands afterwards are what had been handed over before, followed
    by a subsequence — in visit order, nothing twice, nothing foreign — of the entries of this
    starting point (`visitsN`: the in-range entries reachable under the follow mode, whose paths are
    pairwise distinct by `visitsN_paths` and `pathsN_nodup`), and nothing is left waiting. -/
theorem C08_whole_walk (id : Nat) (dir : Bool) (cmd : Bytes) (fixed : List Bytes)
    (c : Config) (m : FuModel.Find.Expr.M Prim) (start : Bytes) (root : Node Attr) (g : GS)
    (hall : m.AllP (Sole id dir cmd fixed)) (hone : m.weight wT ≤ 1) (hmem : M.multis m ≠ [])
    (hb : ∃ nb, newBatch g.budget cmd fixed = some nb)
    (hwalk : ((refCfg c).depthFirst = false ∧ PruneOkN (refCfg c) (evalEntry m start) [] 0 (if c.sorted then sortNode root else root)) ∨
             (refCfg c).depthFirst = true) :
    let n := if c.sorted then sortNode root else root
    let r := processDir c m start (some root) g
    ∃ L, delivered (cmd :: fixed) r.gs = handed (cmd :: fixed) id g ++ L ∧
      L.Sublist ((visitsN (refCfg c) [] 0 n).map fun v => execPath dir (pathOf start v.ent.rpath)) ∧
      pendingOf id r.gs = [] := by
  intro n r
  obtain ⟨nb, hnb⟩ := hb
  have hms := multis_sole id dir cmd fixed m hall
  -- one evaluation of the expression: each primary hands over at most `wT p` paths, all of them this entry's
  have hev : ∀ v s, AppLog (fun s : ES => s.gs.budget = g.budget) (fun s => handed (cmd :: fixed) id s.gs) s
      (m.eval (sem start v) (·.quit) s).2 [execPath dir (pathOf start v.ent.rpath)] := fun v s =>
    (Expr.relW_log (sem start v) (·.quit) (Sole id dir cmd fixed) wT _ _ _ (fun p hp s hI => ⟨(sem_frame start v p s).1.trans hI, by
      rcases hp with hq | rfl
      · exact ⟨[], by simp [handed, delivered, pendingOf, (sem_frame start v p s).2.2.1 hq], by simp⟩
      · cases hpan : s.gs.panicked
        · obtain ⟨-, -, h, -⟩ := sem_multi_step start v id dir cmd fixed s nb hpan (hI ▸ hnb)
          exact ⟨_, h, by cases (_ || _ : Bool) <;> simp [wT, quiet]⟩
        · exact ⟨[], by simp [sem, hpan], by simp⟩⟩) m hall s).weaken
      (List.replicate_sublist_replicate _ |>.mpr hone)
  obtain ⟨-, L, hL, hs⟩ := processDir_log c m start root (fun g' => g'.budget = g.budget) (handed (cmd :: fixed) id) _
    (book_handed id dir cmd fixed hms (fun _ _ h => h) (fun _ _ _ _ h => (flush_frame ..).2.trans h))
    hev (.of_or hwalk) g rfl
  have hp : pendingOf id (processDir c m start (some root) g).gs = [] := by
    obtain ⟨x, hx⟩ := List.exists_mem_of_ne_nil _ hmem
    simp [pendingOf, hms x hx ▸ processDir_pending c m start (some root) g x hx]
  exact ⟨L, by simpa [handed, hp] using hL, by rwa [List.map_eq_flatMap], hp⟩

/-- non-vacuity of `C08_whole_walk`: `find t -depth -name a -exec c {} +` meets the hypotheses -/
example :
    let m : FuModel.Find.Expr.M Prim := .and [.prim (.name [97]), .prim (.execMulti 0 false true [99] [])]
    let c : Config := { depthFirst := true }
    let root : Node Attr := .dir [116] false true { lty := 'd', sty := 'd' } [.leaf [97] .plain { lty := 'f', sty := 'f' }]
    m.AllP (Sole 0 false [99] []) ∧ m.weight wT ≤ 1 ∧ M.multis m ≠ [] ∧
      (∃ nb, newBatch ({} : GS).budget [99] [] = some nb) ∧
      (refCfg c).depthFirst = true := by
  exact ⟨⟨.inl rfl, .inr rfl, trivial⟩, by decide, by decide, Option.isSome_iff_exists.1 (by decide), rfl⟩

/-- non-vacuity: two paths handed to a `+` action and the final flush -/
example :
    let v1 : Visit Attr := ⟨⟨[[97]], 1, .leaf [97] .plain { lty := 'f', sty := 'f' }, false⟩, false, .never⟩
    let s0 : ES := ⟨{}, false, false, 0⟩
    let s1 := (sem [116] v1 (.execMulti 0 false true [99] []) s0).2
    handed [[99]] 0 s1.gs = [[116, 47, 97]] ∧
      handed [[99]] 0 (flushAll [(0, false, true, [99], [])] s1.gs false).1 = [[116, 47, 97]] ∧
      pendingOf 0 (flushAll [(0, false, true, [99], [])] s1.gs false).1 = [] := by decide +kernel

/-- `C08_whole_walk` for expressions without `-prune`: in pre-order (no `-depth`) there is no
    hypothesis on the tree at all -/
theorem C08_whole_walk_pre (id : Nat) (dir : Bool) (cmd : Bytes) (fixed : List Bytes)
    (c : Config) (m : FuModel.Find.Expr.M Prim) (start : Bytes) (root : Node Attr) (g : GS)
    (hall : m.AllP (Sole id dir cmd fixed)) (hone : m.weight wT ≤ 1) (hmem : M.multis m ≠ [])
    (hnp : m.AllP (fun p => notPrune p = true))
    (hb : ∃ nb, newBatch g.budget cmd fixed = some nb) (hpre : (refCfg c).depthFirst = false) :
    let n := if c.sorted then sortNode root else root
    let r := processDir c m start (some root) g
    ∃ L, delivered (cmd :: fixed) r.gs = handed (cmd :: fixed) id g ++ L ∧
      L.Sublist ((visitsN (refCfg c) [] 0 n).map fun v => execPath dir (pathOf start v.ent.rpath)) ∧
      pendingOf id r.gs = [] :=
  C08_whole_walk id dir cmd fixed c m start root g hall hone hmem hb (.inl ⟨hpre, WalkOk.of_noPrune hnp hpre⟩)

/-- `C08_whole_walk` on a well-formed world (`wfNode`: what the driver's parser admits): in pre-order
    there is no hypothesis on the expression either - `-prune` included (`pruneOkN_of_wf`) -/
theorem C08_whole_walk_wf (id : Nat) (dir : Bool) (cmd : Bytes) (fixed : List Bytes)
    (c : Config) (m : FuModel.Find.Expr.M Prim) (start : Bytes) (root : Node Attr) (g : GS)
    (hall : m.AllP (Sole id dir cmd fixed)) (hone : m.weight wT ≤ 1) (hmem : M.multis m ≠ [])
    (hb : ∃ nb, newBatch g.budget cmd fixed = some nb) (hpre : (refCfg c).depthFirst = false)
    (hw : wfNode root = true) :
    let n := if c.sorted then sortNode root else root
    let r := processDir c m start (some root) g
    ∃ L, delivered (cmd :: fixed) r.gs = handed (cmd :: fixed) id g ++ L ∧
      L.Sublist ((visitsN (refCfg c) [] 0 n).map fun v => execPath dir (pathOf start v.ent.rpath)) ∧
      pendingOf id r.gs = [] :=
  C08_whole_walk id dir cmd fixed c m start root g hall hone hmem hb
    (.inl ⟨hpre, pruneOkN_of_wf (refCfg c) m start [] 0 _ (by split; exact wf_sortNode _ hw; exact hw)⟩)

/-- **`find START TEST -exec CMD FIXED {} +` / `-execdir … +`, exactly** (statement and proof:
    `whole_walk_exactM` in `Proofs/ExecWalk.lean`, for any expression of tests): for every tree, follow mode, depth range and
    traversal order, every test that only looks at the entry and every state in which nothing has
    panicked and an open batch has at most the room of a fresh command line (`IX`; the initial
    state is one), the paths delivered to started commands after the walk of a starting point are
    those handed over before followed by **exactly** the paths of the in-range reachable entries
    that satisfy the test and fit on a command line of their own — in visit order, each once — and
    nothing is left waiting. -/
theorem C08_exact (id : Nat) (dir : Bool) (cmd : Bytes) (fixed : List Bytes) (B : Nat) (nb : Batch)
    (hnb : newBatch B cmd fixed = some nb) (t : Prim) (ht : isTestP t = true)
    (c : Config) (start : Bytes) (root : Node Attr) (g : GS) (hI : IX id B nb g) :
    let n := if c.sorted then sortNode root else root
    let r := processDir c (.and [.prim t, .prim (.execMulti id dir true cmd fixed)]) start (some root) g
    delivered (cmd :: fixed) r.gs =
      handed (cmd :: fixed) id g ++ (visitsN (refCfg c) [] 0 n).flatMap (handedBy dir nb t start) ∧
    pendingOf id r.gs = [] :=
  whole_walk_exactM id dir cmd fixed B nb hnb (.prim t) ht c start root g hI

/-- non-vacuity: the initial state satisfies `IX`, and for `find t -type f -exec c {} +` on a
    two-level tree the right-hand side is the two files (kernel evaluation) -/
example :
    let nb : Batch := (newBatch ({} : GS).budget [99] []).getD ⟨[], 0, none⟩
    let root : Node Attr := .dir [116] false true { lty := 'd', sty := 'd' }
      [.leaf [97] .plain { lty := 'f', sty := 'f' }, .dir [98] false true { lty := 'd', sty := 'd' } [.leaf [99] .plain { lty := 'f', sty := 'f' }]]
    newBatch ({} : GS).budget [99] [] = some nb ∧ IX 0 ({} : GS).budget nb {} ∧
      (visitsN (refCfg {}) [] 0 root).flatMap (handedBy false nb (.typeIs 'f') [116]) = [[116, 47, 97], [116, 47, 98, 47, 99]] := by
  exact ⟨Option.eq_some_of_isSome (by decide), ⟨rfl, rfl, nofun⟩, by decide +kernel⟩

end FuModel.Find.Run
