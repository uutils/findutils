import FuModel.Proofs.ExecBatch
import FuModel.Proofs.RunLift

/-!
# `-exec … {} +` loses nothing and keeps the order (C08): one evaluation, `finished_dir`, `finished`

The sequence to follow is `handed`: the paths in commands already started, then those waiting in
the open batch.  One evaluation of the action appends the entry's path to it (or nothing, if the
path fits on no command line); dispatching a batch leaves it as it is.
-/

namespace FuModel.Find.Run
open FuModel.Find.Walk FuModel.Find.Expr

/-- the paths already handed to started commands of the action with command line prefix `pre` -/
def delivered (pre : List Bytes) (g : GS) : List Bytes :=
  g.execs.flatMap fun e => if e.argv.take pre.length == pre then e.argv.drop pre.length else []

/-- the paths waiting in the action's open batch -/
def pendingOf (id : Nat) (g : GS) : List Bytes :=
  match g.pending.lookup id with
  | some b => b.paths
  | none => []

/-- everything handed to the action so far, in order -/
def handed (pre : List Bytes) (id : Nat) (g : GS) : List Bytes := delivered pre g ++ pendingOf id g

theorem lookup_setPending_some (g : GS) (id : Nat) (b : Batch) : (setPending g id (some b)).pending.lookup id = some b := by
  simp [setPending]

/-- no batch under `i` is left among those that pass `p`: there was none, or `p` drops them -/
theorem lookup_filter_none (l : List (Nat × Batch)) (i : Nat) (p : Nat × Batch → Bool)
    (h : l.lookup i = none ∨ ∀ b, p (i, b) = false) : (l.filter p).lookup i = none := by
  rw [List.lookup_eq_none_iff] at h ⊢
  intro x hx
  rw [List.mem_filter] at hx
  refine h.elim (fun h => h x hx.1) fun h => ?_
  rw [bne_iff_ne]
  rintro rfl
  exact absurd hx.2 (by simp [h x.2])

theorem lookup_setPending_none (g : GS) (id : Nat) : (setPending g id none).pending.lookup id = none := by
  exact lookup_filter_none g.pending id _ (Or.inr fun _ => by simp)

theorem rootCwd_paths (dir : Bool) (path : Bytes) (b : Batch) : (rootCwd dir path b).paths = b.paths := by
  unfold rootCwd; split <;> rfl

theorem delivered_setPending (pre : List Bytes) (g : GS) (id : Nat) (b : Option Batch) :
    delivered pre (setPending g id b) = delivered pre g := rfl

theorem pending_spawn (g : GS) (ok : Bool) (argv : List Bytes) (cwd : Option Bytes) : (g.spawn ok argv cwd).2.pending = g.pending := by
  rw [spawn_snd]

theorem delivered_runBatch (g : GS) (cmd : Bytes) (fixed : List Bytes) (b : Batch) (cwd : Option Bytes) :
    delivered (cmd :: fixed) (runBatch g true cmd fixed b cwd).1 = delivered (cmd :: fixed) g ++ b.paths := by
  simp [delivered, runBatch, spawn_snd, List.flatMap_append]

/-- dispatching a batch (and opening or closing one afterwards) touches neither the panic mark nor the budget -/
theorem flush_frame (g : GS) (ok : Bool) (cmd : Bytes) (fixed : List Bytes) (b : Batch) (cwd : Option Bytes) (id : Nat)
    (o : Option Batch) :
    (setPending (runBatch g ok cmd fixed b cwd).1 id o).panicked = g.panicked ∧
      (setPending (runBatch g ok cmd fixed b cwd).1 id o).budget = g.budget := by
  simp [setPending, runBatch, spawn_snd]

theorem handed_setPending (pre : List Bytes) (g : GS) (id : Nat) (b : Batch) :
    handed pre id (setPending g id (some b)) = delivered pre g ++ b.paths := by
  simp [handed, pendingOf, lookup_setPending_some, delivered_setPending]

theorem tryArg_some {b b' : Batch} {a : Bytes} (h : b.tryArg a = some b') :
    b'.paths = b.paths ++ [a] ∧ b'.remaining ≤ b.remaining := by
  unfold Batch.tryArg at h
  split at h
  · cases h
  · cases h; exact ⟨rfl, by simp only [argSize]; omega⟩

/-- dispatching the open batch of the action (at the end of a directory for `-execdir`, at the end
    of the walk otherwise) moves its paths, in order, into a started command: nothing handed over is
    lost, and nothing is left waiting -/
theorem flush_one (g : GS) (id : Nat) (cmd : Bytes) (fixed : List Bytes) (b : Batch) (cwd : Option Bytes)
    (hl : g.pending.lookup id = some b) :
    let g' := setPending (runBatch g true cmd fixed b cwd).1 id none
    handed (cmd :: fixed) id g' = handed (cmd :: fixed) id g ∧ pendingOf id g' = [] := by
  simp [handed, pendingOf, delivered_setPending, lookup_setPending_none, delivered_runBatch, hl]

section step
variable (start : Bytes) (v : Visit Attr) (id : Nat) (dir : Bool) (cmd : Bytes) (fixed : List Bytes) (s : ES) (nb : Batch)

/-- **One evaluation of `-exec CMD FIXED {} +`**, when nothing has panicked and a fresh command line
    `nb` can be made.  With `cur` the open batch (or `nb`): the entry's path is appended to `handed`
    iff it fits into `cur` or, `cur` having been dispatched, into `nb`; if it fits into neither,
    find's status becomes 1.  The batch left open has no more room than `cur` or `nb` had. -/
theorem sem_multi_step (hp : s.gs.panicked = false) (hnb : newBatch s.gs.budget cmd fixed = some nb) :
    let r := sem start v (.execMulti id dir true cmd fixed) s
    let arg := execPath dir (pathOf start v.ent.rpath)
    let cur := (s.gs.pending.lookup id).getD nb
    let fits := (cur.tryArg arg).isSome || (nb.tryArg arg).isSome
    r.2.gs.panicked = false ∧
    (∀ b, r.2.gs.pending.lookup id = some b → b.remaining ≤ cur.remaining ∨ b.remaining ≤ nb.remaining) ∧
    handed (cmd :: fixed) id r.2.gs = handed (cmd :: fixed) id s.gs ++ (bif fits then [arg] else []) ∧
    (fits = false → r.2.exit = 1) := by
  have hnbp : nb.paths = [] := (C08_new_batch _ _ _ _ hnb).2
  have hrem : ∀ (g : GS) (b b' : Batch), (setPending g id (some (rootCwd dir (pathOf start v.ent.rpath) b))).pending.lookup id = some b' →
      b'.remaining = b.remaining := by
    intro g b b' h
    rw [lookup_setPending_some] at h
    cases h; unfold rootCwd; split <;> rfl
  intro r arg cur fits
  simp only [r, arg, cur, fits, sem, hp, Bool.false_eq_true, if_false]
  cases hl : s.gs.pending.lookup id with
  | some b =>
    simp only [Option.getD_some]
    cases ht : b.tryArg (execPath dir (pathOf start v.ent.rpath)) with
    | some b' =>
      have hb' := tryArg_some ht
      refine ⟨hp, fun bb h => Or.inl (hrem _ _ _ h ▸ hb'.2), ?_, by simp⟩
      rw [handed_setPending]
      simp [rootCwd_paths, hb'.1, handed, pendingOf, hl]
    | none =>
      simp only [hnb]
      have hd := delivered_runBatch s.gs cmd fixed b (execCwd dir (pathOf start v.ent.rpath))
      cases ht2 : nb.tryArg (execPath dir (pathOf start v.ent.rpath)) with
      | some nb' =>
        have hb' := tryArg_some ht2
        refine ⟨(flush_frame ..).1.trans hp, fun bb h => Or.inr (hrem _ _ _ h ▸ hb'.2), ?_, by simp⟩
        rw [handed_setPending]
        simp [rootCwd_paths, hb'.1, hnbp, hd, handed, pendingOf, hl]
      | none =>
        refine ⟨(flush_frame ..).1.trans hp, fun bb h => Or.inr (hrem _ _ _ h ▸ Int.le_refl _), ?_, fun _ => rfl⟩
        rw [handed_setPending]
        simp [rootCwd_paths, hnbp, hd, handed, pendingOf, hl]
  | none =>
    simp only [hnb, Option.getD_none, Bool.or_self]
    cases ht : nb.tryArg (execPath dir (pathOf start v.ent.rpath)) with
    | some b' =>
      have hb' := tryArg_some ht
      refine ⟨hp, fun bb h => Or.inr (hrem _ _ _ h ▸ hb'.2), ?_, by simp⟩
      rw [handed_setPending]
      simp [rootCwd_paths, hb'.1, hnbp, handed, pendingOf, hl]
    | none =>
      have hd := delivered_runBatch s.gs cmd fixed nb (execCwd dir (pathOf start v.ent.rpath))
      refine ⟨(flush_frame ..).1.trans hp, fun bb h => Or.inr (hrem _ _ _ h ▸ Int.le_refl _), ?_, fun _ => rfl⟩
      rw [handed_setPending]
      simp [rootCwd_paths, hnbp, hd, handed, pendingOf, hl]

/-- **One evaluation of `-exec CMD FIXED {} +` loses nothing and keeps the order**: the sequence
    of paths handed to the action (those in commands already started, then those waiting in the
    open batch) grows by exactly the current entry's path at its end — or, if the path cannot fit
    on any command line, stays as it was while find's status becomes 1. -/
theorem C08_step_lossless (start : Bytes) (v : Visit Attr) (id : Nat) (dir : Bool) (cmd : Bytes) (fixed : List Bytes) (s : ES)
    (hp : s.gs.panicked = false) (hb : ∃ nb, newBatch s.gs.budget cmd fixed = some nb) :
    let r := sem start v (.execMulti id dir true cmd fixed) s
    let arg := execPath dir (pathOf start v.ent.rpath)
    handed (cmd :: fixed) id r.2.gs = handed (cmd :: fixed) id s.gs ++ [arg] ∨
      (handed (cmd :: fixed) id r.2.gs = handed (cmd :: fixed) id s.gs ∧ r.2.exit = 1) := by
  obtain ⟨nb, hnb⟩ := hb
  obtain ⟨-, -, h, he⟩ := sem_multi_step start v id dir cmd fixed s nb hp hnb
  revert h he
  cases ((s.gs.pending.lookup id).getD nb |>.tryArg (execPath dir (pathOf start v.ent.rpath))).isSome ||
    (nb.tryArg (execPath dir (pathOf start v.ent.rpath))).isSome
  · exact fun h he => Or.inr ⟨by simpa using h, he rfl⟩
  · exact fun h _ => Or.inl h

end step

/-- `finished()`: after it, the single `+` action of the expression has nothing pending and
    everything that was handed to it has been delivered, in order -/
theorem C08_finish_lossless (g : GS) (id : Nat) (dir : Bool) (cmd : Bytes) (fixed : List Bytes) (failed : Bool) :
    let r := flushAll [(id, dir, true, cmd, fixed)] g failed
    handed (cmd :: fixed) id r.1 = handed (cmd :: fixed) id g ∧ pendingOf id r.1 = [] := by
  simp only [flushAll]
  cases hl : g.pending.lookup id with
  | some b => exact flush_one g id cmd fixed b b.cwd hl
  | none => simp [handed, pendingOf, hl]

/-- `finished_dir(d)`: the same for an `-execdir` action when a directory is left -/
theorem C08_finished_dir_lossless (g : GS) (id : Nat) (cmd : Bytes) (fixed : List Bytes) (d : Bytes) (failed : Bool) :
    let r := flushMultis true d [(id, true, true, cmd, fixed)] g failed
    handed (cmd :: fixed) id r.1 = handed (cmd :: fixed) id g ∧ pendingOf id r.1 = [] := by
  simp only [flushMultis, beq_self_eq_true, if_true]
  cases hl : g.pending.lookup id with
  | some b => exact flush_one g id cmd fixed b _ hl
  | none => simp [handed, pendingOf, hl]

end FuModel.Find.Run
