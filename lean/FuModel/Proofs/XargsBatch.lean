import FuModel.Proofs.XargsPlan
/-
Helper lemmas for the batching theorems (C04): the limiter chain (`tryArg`,
`foldTry`), its declarative reading, the maximality chain and the post-condition
of `plan`.
-/
namespace FuModel.Xargs

/-! ### the limiter chain -/

/-- the state `tryArg` produces when it accepts -/
def stepState (lim : Limits) (st : LState) (a : Arg) : LState :=
  { args := if a.kind ≠ .initial then st.args + 1 else st.args
    line := if a.kind = .hard then st.line + 1 else st.line
    sizeS := st.sizeS + cost a.bytes
    sizeSys := st.sizeSys + cost a.bytes + lim.ptr }

/-- the five tests of the chain -/
def Accepts (lim : Limits) (st : LState) (a : Arg) : Prop :=
  (∀ n, lim.n = some n → st.args < n) ∧
  (∀ l, lim.l = some l → st.line ≤ l) ∧
  (∀ s, lim.s = some s → st.sizeS + cost a.bytes ≤ s) ∧
  cost a.bytes ≤ lim.maxArg ∧
  st.sizeSys + cost a.bytes + lim.ptr ≤ lim.sys

/-- a limiter in front of the rest `r` of the chain: `r` is reached only if the test holds -/
theorem guard_ok {P : Prop} [Decidable P] {ε α : Type} (e : ε) (r : Except ε α) (a : α) :
    (if (!decide P) = true then .error e else r) = .ok a ↔ P ∧ r = .ok a := by
  by_cases h : P <;> simp [h]

/-- the same for a limiter that may be switched off -/
theorem guard_any_ok {p : Nat → Prop} [DecidablePred p] {ε α : Type} (o : Option Nat) (e : ε)
    (r : Except ε α) (a : α) :
    (if o.any (fun n => !decide (p n)) = true then .error e else r) = .ok a ↔
      (∀ n, o = some n → p n) ∧ r = .ok a := by
  cases o with
  | none => simp
  | some n => simpa using guard_ok (P := p n) e r a

theorem tryArg_ok_iff (lim : Limits) (st st' : LState) (a : Arg) :
    tryArg lim st a = .ok st' ↔ Accepts lim st a ∧ st' = stepState lim st a := by
  simp only [tryArg, Accepts, guard_any_ok, guard_ok, and_assoc, Except.ok.injEq, stepState,
    @eq_comm _ st']

theorem tryArg_ok_of_accepts {lim : Limits} {st : LState} {a : Arg} (h : Accepts lim st a) :
    tryArg lim st a = .ok (stepState lim st a) :=
  (tryArg_ok_iff lim st _ a).2 ⟨h, rfl⟩

theorem not_accepts_of_error {lim : Limits} {st : LState} {a : Arg} {e : Bool}
    (h : tryArg lim st a = .error e) : ¬ Accepts lim st a := by
  intro hacc
  rw [tryArg_ok_of_accepts hacc] at h
  cases h

/-- an optional limit that admits `y` admits everything below -/
theorem bound_mono {o : Option Nat} {x y : Nat} (h : x ≤ y) (hy : ∀ n, o = some n → y ≤ n) :
    ∀ n, o = some n → x ≤ n :=
  fun n hn => Nat.le_trans h (hy n hn)

/-- what is accepted after `x` is accepted before it: no counter of the chain ever decreases -/
theorem Accepts.of_step {lim : Limits} {st : LState} {x a : Arg}
    (h : Accepts lim (stepState lim st x) a) : Accepts lim st a := by
  obtain ⟨h1, h2, h3, h4, h5⟩ := h
  simp only [stepState] at h1 h2 h3 h5
  exact ⟨bound_mono (by split <;> simp) h1, bound_mono (by split <;> simp) h2,
    bound_mono (by simp +arith) h3, h4, Nat.le_trans (by simp +arith) h5⟩

/-! ### foldTry -/

theorem foldTry_append (lim : Limits) (st : LState) (b c : List Arg) :
    foldTry lim st (b ++ c) = (foldTry lim st b).bind (fun st' => foldTry lim st' c) := by
  induction b generalizing st with
  | nil => simp [foldTry]
  | cons a b ih =>
    simp only [List.cons_append, foldTry]
    cases tryArg lim st a with
    | ok st' => simpa using ih st'
    | error e => simp

theorem foldTry_cons_eq_some (lim : Limits) (st st' : LState) (a : Arg) (b : List Arg) :
    foldTry lim st (a :: b) = some st' ↔
      Accepts lim st a ∧ foldTry lim (stepState lim st a) b = some st' := by
  rw [foldTry]
  cases h : tryArg lim st a with
  | ok s =>
    obtain ⟨hacc, rfl⟩ := (tryArg_ok_iff lim st s a).1 h
    simp [hacc]
  | error e => simp [not_accepts_of_error h]

theorem fitsB_nil (lim : Limits) (init : LState) : fitsB lim init [] = true := rfl

theorem fitsB_cons_iff (lim : Limits) (st : LState) (a : Arg) (b : List Arg) :
    fitsB lim st (a :: b) = true ↔ Accepts lim st a ∧ fitsB lim (stepState lim st a) b = true := by
  simp [fitsB, Option.isSome_iff_exists, foldTry_cons_eq_some]

theorem fitsB_singleton_iff (lim : Limits) (init : LState) (a : Arg) :
    fitsB lim init [a] = true ↔ Accepts lim init a := by
  simp [fitsB_cons_iff, fitsB_nil]

theorem fitsB_of_foldTry {lim : Limits} {init st : LState} {b : List Arg}
    (h : foldTry lim init b = some st) : fitsB lim init b = true := by
  simp [fitsB, h]

/-- every member of a command that fits also fits alone -/
theorem fitsB_singleton_of_mem {lim : Limits} {init : LState} {b : List Arg} {a : Arg}
    (hb : fitsB lim init b = true) (ha : a ∈ b) : fitsB lim init [a] = true := by
  rw [fitsB_singleton_iff]
  induction b generalizing init with
  | nil => cases ha
  | cons x b ih =>
    obtain ⟨hx, hb⟩ := (fitsB_cons_iff lim init x b).1 hb
    rcases List.mem_cons.1 ha with rfl | ha
    · exact hx
    · exact (ih hb ha).of_step

/-! ### operational versus declarative reading -/

theorem hardCount_cons (a : Arg) (b : List Arg) :
    hardCount (a :: b) = (if a.kind = .hard then 1 else 0) + hardCount b := by
  by_cases h : a.kind = .hard <;> simp [hardCount, h, Nat.add_comm]

theorem hardCount_nil : hardCount [] = 0 := rfl

theorem totalCost_cons (a : Arg) (b : List Arg) :
    totalCost (a :: b) = cost a.bytes + totalCost b := by
  simp [totalCost]

theorem totalCost_nil : totalCost [] = 0 := rfl

theorem fitsSpec_singleton (lim : Limits) (st : LState) (a : Arg) :
    FitsSpec lim st [a] ↔ Accepts lim st a := by
  simp +arith only [FitsSpec, Accepts, reduceCtorEq, false_or, List.dropLast_singleton, hardCount_nil,
    totalCost_cons, totalCost_nil, List.length_cons, List.length_nil, List.mem_singleton, forall_eq,
    Nat.lt_iff_add_one_le]

theorem fitsSpec_cons_cons (lim : Limits) (st : LState) (a a' : Arg) (b : List Arg)
    (hk : a.kind ≠ .initial) :
    FitsSpec lim st (a :: a' :: b) ↔
      Accepts lim st a ∧ FitsSpec lim (stepState lim st a) (a' :: b) := by
  have hline : (stepState lim st a).line = st.line + (if a.kind = .hard then 1 else 0) := by
    simp only [stepState]; split <;> rfl
  unfold FitsSpec Accepts
  rw [hline]
  -- the sums on both sides in one normal form: the conditions on `a :: a' :: b` are literally those
  -- on `a' :: b` from the next state; what is left is that they imply the tests at the first step
  simp +arith only [stepState, List.dropLast_cons_cons, hardCount_cons, totalCost_cons,
    List.length_cons, Nat.mul_add, Nat.mul_one, List.mem_cons, forall_eq_or_imp, hk, ne_eq,
    not_false_eq_true, if_true, reduceCtorEq, false_or]
  constructor
  · rintro ⟨hN, hL, hS, ⟨hM, hM'⟩, hY⟩
    exact ⟨⟨bound_mono (by simp +arith) hN, bound_mono (by simp +arith) hL,
      bound_mono (by simp +arith) hS, hM, Nat.le_trans (by simp +arith) hY⟩, hN, hL, hS, hM', hY⟩
  · rintro ⟨⟨_, _, _, hM, _⟩, hN, hL, hS, hM', hY⟩
    exact ⟨hN, hL, hS, ⟨hM, hM'⟩, hY⟩

/-! ### maximality chain -/

/-- the first argument of `b'` could not be added to `b` -/
def HeldBack (lim : Limits) (init : LState) (b b' : List Arg) : Prop :=
  ∃ a, b'.head? = some a ∧ fitsB lim init (b ++ [a]) = false

/-- consecutive commands satisfy `HeldBack` -/
def MaxChain (lim : Limits) (init : LState) (l : List (List Arg)) : Prop :=
  ∀ i (h : i + 1 < l.length), HeldBack lim init (l[i]'(by omega)) (l[i + 1])

theorem MaxChain.nil (lim : Limits) (init : LState) : MaxChain lim init [] := by
  intro i h; simp at h

theorem MaxChain.singleton (lim : Limits) (init : LState) (x : List Arg) :
    MaxChain lim init [x] := by
  intro i h; simp at h

theorem maxChain_cons {lim : Limits} {init : LState} {x : List Arg} {l : List (List Arg)}
    (hl : MaxChain lim init l) (hx : ∀ y, l.head? = some y → HeldBack lim init x y) :
    MaxChain lim init (x :: l) := by
  intro i h
  cases i with
  | zero => cases l with
    | nil => simp at h
    | cons y l => exact hx y rfl
  | succ i => exact hl i (by simpa using h)

theorem MaxChain.take {lim : Limits} {init : LState} {l : List (List Arg)}
    (h : MaxChain lim init l) (k : Nat) : MaxChain lim init (l.take k) := by
  intro i hi
  simp only [List.getElem_take]
  exact h i (by simp at hi; omega)

/-! ### the invariant of `processInput` -/

/-- The loop invariant of `processInput` with its log of started commands: the builder holds what
    the chain made of its arguments and is pending iff it holds any; every logged command fits, is
    non-empty and was closed only because the next argument did not fit.  The batching theorems go
    through `plan` instead (`plan_post`), where there is no log: they use the first two fields. -/
structure Inv (cfg : Config) (init : LState) (cur : Builder) (pend : Bool)
    (log : List (List Arg)) : Prop where
  fold : foldTry cfg.lim init cur.extra = some cur.st
  pend_iff : pend = true ↔ cur.extra ≠ []
  logFits : ∀ b ∈ log, fitsB cfg.lim init b = true
  logNe : ∀ b ∈ log, b ≠ []
  chain : MaxChain cfg.lim init (log ++ [cur.extra])
  logEmpty : cur.extra = [] → log = []

theorem Inv.initial (cfg : Config) (init : LState) : Inv cfg init ⟨init, []⟩ false [] where
  fold := rfl
  pend_iff := by simp
  logFits := by simp
  logNe := by simp
  chain := MaxChain.singleton _ _ _
  logEmpty := fun _ => rfl

/-! ### what `plan` guarantees -/

/-- why the plan ends with an error of xargs' own -/
def OneWitness (cfg : Config) (init : LState) (input : List Arg) (bs : List (List Arg)) : Prop :=
  ∃ pending a post, input = bs.flatten ++ pending ++ a :: post ∧
    fitsB cfg.lim init pending = true ∧
    ((pending = [] ∧ fitsB cfg.lim init [a] = false) ∨
     (cfg.x = true ∧ (cfg.lim.n.isSome ∨ cfg.lim.l.isSome) ∧
      ∃ st, foldTry cfg.lim init pending = some st ∧ tryArg cfg.lim st a = .error true))

/-- What holds of the commands `bs` cut from `input`, for a plan (`done`: it ends normally,
    `own`: with an error) and for a run (`done`: status 0 or 123, `own`: status 1). -/
structure Post (cfg : Config) (init : LState) (input : List Arg) (bs : List (List Arg))
    (done own : Prop) : Prop where
  fits : ∀ b ∈ bs, fitsB cfg.lim init b = true
  chain : MaxChain cfg.lim init bs
  pre : bs.flatten <+: input
  all : done → bs.flatten = input
  ne : input ≠ [] → ∀ b ∈ bs, b ≠ []
  one : own → OneWitness cfg init input bs

/-- the plan stops with an error before any command -/
theorem Post.stop {cfg : Config} {init : LState} {input : List Arg} {d o : Prop} (hd : ¬ d)
    (h : OneWitness cfg init input []) : Post cfg init input [] d o :=
  ⟨by simp, MaxChain.nil _ _, by simp, fun h' => absurd h' hd, by simp, fun _ => h⟩

/-- the command under construction, if any, closed because `a` did not fit, in front of a
    plan for `a :: as` -/
theorem Post.close {cfg : Config} {init : LState} {cur : Builder} {pend : Bool} {as : List Arg}
    {a : Arg} {e : Bool} {bs : List (List Arg)} {d o : Prop}
    (hf : foldTry cfg.lim init cur.extra = some cur.st) (hp : pend = true ↔ cur.extra ≠ [])
    (herr : tryArg cfg.lim cur.st a = .error e) (P : Post cfg init (a :: as) bs d o)
    (hh : ∀ b, bs.head? = some b → b.head? = some a) :
    Post cfg init (cur.extra ++ a :: as) (if pend then cur.extra :: bs else bs) d o := by
  cases pend with
  | false =>
    have he : cur.extra = [] := by simpa using hp
    simpa [he] using P
  | true =>
    exact {
      fits := by simpa using ⟨fitsB_of_foldTry hf, P.fits⟩
      chain := maxChain_cons P.chain fun y hy =>
        ⟨a, hh y hy, by simp [fitsB, foldTry_append, hf, foldTry, herr]⟩
      pre := by obtain ⟨t, ht⟩ := P.pre; exact ⟨t, by simp [← ht]⟩
      all := fun h => by simp [P.all h]
      ne := fun _ b hb => by
        rcases List.mem_cons.1 (by simpa using hb) with rfl | hb
        · exact hp.1 rfl
        · exact P.ne (by simp) b hb
      one := fun h => by
        obtain ⟨pd, y, post, e, h1, h2⟩ := P.one h
        exact ⟨pd, y, post, by simp [e], h1, h2⟩ }

/-- The plan from a builder that holds what the chain made of its arguments (`hf`), pending iff it
    holds any (`hp`); its first command, if one is pending, starts with the builder's first. -/
theorem plan_post (cfg : Config) (init : LState) :
    ∀ (as : List Arg) (cur : Builder) (pend : Bool),
      foldTry cfg.lim init cur.extra = some cur.st → (pend = true ↔ cur.extra ≠ []) →
      Post cfg init (cur.extra ++ as) (plan cfg init false cur pend as).1
        ((plan cfg init false cur pend as).2 = false) ((plan cfg init false cur pend as).2 = true) ∧
      (pend = true → ∀ b, (plan cfg init false cur pend as).1.head? = some b →
        b.head? = cur.extra.head?) := by
  intro as
  induction as with
  | nil =>
    intro cur pend hf hp
    simp only [plan, Bool.false_eq_true, if_false, List.append_nil]
    split
    · exact ⟨⟨by simpa using fitsB_of_foldTry hf, MaxChain.singleton _ _ _, by simp, by simp,
        by simp, nofun⟩, by simp⟩
    · rename_i hc
      have he : cur.extra = [] := by cases pend <;> simp_all
      exact ⟨⟨by simp, MaxChain.nil _ _, by simp, by simp [he], by simp, nofun⟩, by simp⟩
  | cons a as ih =>
    intro cur pend hf hp
    simp only [plan]
    cases hta : tryArg cfg.lim cur.st a with
    | ok st' =>
      obtain ⟨P, hh⟩ := ih ⟨st', cur.extra ++ [a]⟩ true
        (by simp [foldTry_append, hf, foldTry, hta]) (by simp)
      refine ⟨List.append_assoc cur.extra [a] as ▸ P, fun hpt b hb => ?_⟩
      rw [hh rfl b hb]
      cases he : cur.extra with
      | nil => exact absurd he (hp.1 hpt)
      | cons _ _ => rfl
    | error ooc =>
      simp only []
      by_cases hx : (ooc && cfg.x && (cfg.lim.n.isSome || cfg.lim.l.isSome)) = true
      · rw [if_pos hx]
        simp only [Bool.and_eq_true, Bool.or_eq_true] at hx
        obtain ⟨⟨rfl, hx1⟩, hx2⟩ := hx
        exact ⟨Post.stop (by simp) ⟨cur.extra, a, as, rfl, fitsB_of_foldTry hf,
          Or.inr ⟨hx1, hx2, _, hf, hta⟩⟩, by simp⟩
      · rw [if_neg hx]
        refine ⟨?_, fun hp => by simp [hp]⟩
        cases hti : tryArg cfg.lim init a with
        | ok st' =>
          obtain ⟨P, hh⟩ := ih ⟨st', [a]⟩ true (by simp [foldTry, hti]) (by simp)
          exact Post.close hf hp hta P (hh rfl)
        | error e =>
          exact Post.close hf hp hta (Post.stop (by simp) ⟨[], a, as, rfl, fitsB_nil _ _,
            Or.inl ⟨rfl, by simp [fitsB, foldTry, hti]⟩⟩) (by simp)

theorem Post.take {cfg : Config} {init : LState} {input : List Arg} {bs : List (List Arg)}
    {d o : Prop} (P : Post cfg init input bs d o) (k : Nat) {d' o' : Prop}
    (hd : d' → bs.take k = bs ∧ d) (ho : o' → bs.take k = bs ∧ o) :
    Post cfg init input (bs.take k) d' o' where
  fits := fun b hb => P.fits b (List.mem_of_mem_take hb)
  chain := P.chain.take k
  pre := List.IsPrefix.trans
    ⟨(bs.drop k).flatten, by rw [← List.flatten_append, List.take_append_drop]⟩ P.pre
  all := fun h => by rw [(hd h).1]; exact P.all (hd h).2
  ne := fun hne b hb => P.ne hne b (List.mem_of_mem_take hb)
  one := fun h => by rw [(ho h).1]; exact P.one (ho h).2

/-- a run starts a prefix of the plan, and all of it unless a child is fatal -/
theorem run_post (cfg : Config) (init : LState) (script : List Outcome) (args : List Arg) :
    let run := processInput cfg init false ⟨init, []⟩ false false [] script args
    Post cfg init args run.batches (run.status = 0 ∨ run.status = 123) (run.status = 1) := by
  have P := (plan_post cfg init args ⟨init, []⟩ false rfl (by simp)).1
  simp only [processInput_eq_exec]
  generalize plan cfg init false ⟨init, []⟩ false args = p at P
  obtain ⟨k, hk, hd, ho⟩ := exec_prefix p.2 p.1 false [] script
  simp only [List.nil_append] at P hk
  rw [hk]
  exact P.take k hd ho

end FuModel.Xargs
