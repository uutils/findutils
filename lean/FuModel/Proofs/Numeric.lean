import FuModel.Find.Numeric

namespace FuModel.Find

theorem Cmp.imatches_natCast (c : Cmp) (v : Nat) : c.imatches (v : Int) = c.matches v := by
  cases c <;> simp [Cmp.imatches, Cmp.matches] <;> omega

/-- `byte_size_to_unit_size` without its special case for the unit 1 -/
theorem unitSize_eq (k b : Nat) : unitSize k b = if b = 0 then 0 else (b - 1) / 2 ^ k + 1 := by
  unfold unitSize
  split
  · rfl
  · split
    · subst k; simp; omega
    · rw [Nat.shiftRight_eq_div_pow]

theorem unitSize_le (k b : Nat) : unitSize k b ≤ b := by
  have := Nat.div_le_self (b - 1) (2 ^ k)
  rw [unitSize_eq]; split <;> omega

theorem unitSize_eq_zero_iff (k b : Nat) : unitSize k b = 0 ↔ b = 0 := by
  rw [unitSize_eq]; split <;> simp [*]

theorem unitSize_eq_ceil (k b : Nat) : unitSize k b = (b + 2 ^ k - 1) / 2 ^ k := by
  have hp := Nat.two_pow_pos k
  rw [unitSize_eq]
  split
  · subst b; exact (Nat.div_eq_of_lt (by omega)).symm
  · rw [show b + 2 ^ k - 1 = b - 1 + 2 ^ k by omega, Nat.add_div_right _ hp]

theorem size_lt_one_iff (k b : Nat) : sizeMatches (.less 1) k b ↔ b = 0 := by
  simp [sizeMatches, Cmp.matches, unitSize_eq_zero_iff]

theorem splitSign_chars (s : List Char) : s = (splitSign s).1.chars ++ (splitSign s).2 := by
  unfold splitSign
  split <;> rfl

/-- a digit is not a sign: what stands before a digit is the whole sign -/
theorem splitSign_digit (sg : Sign) {d : Char} (h : isAsciiDigit d = true) (r : List Char) :
    splitSign (sg.chars ++ d :: r) = (sg, d :: r) := by
  cases sg
  · rfl
  · rfl
  · unfold splitSign
    split <;> first | rfl | (rename_i e; cases e; exact absurd h (by decide))

theorem takeWhile_stop (p : Char → Bool) (ds suf : List Char) (hd : ∀ d ∈ ds, p d = true)
    (hs : ∀ d, suf.head? = some d → p d = false) :
    (ds ++ suf).takeWhile p = ds ∧ (ds ++ suf).dropWhile p = suf := by
  rw [List.takeWhile_append_of_pos hd, List.dropWhile_append_of_pos hd]
  cases suf with
  | nil => simp
  | cons x xs => simp [hs x rfl]

theorem takeWhile_append_dropWhile' (p : Char → Bool) (l : List Char) :
    l.takeWhile p ++ l.dropWhile p = l := List.takeWhile_append_dropWhile

end FuModel.Find
