import FuModel.Spec.WalkRef

/-!
Refinement of the walk machine (`step`/`loop`, i.e. walkdir's iterator inside
`process_dir`'s loop) to the recursive reference traversal `refNode`/`refKids`.
-/
namespace FuModel.Find.Walk
variable {α σ : Type}

def resOf (q : Bool) (A : Acc σ) : Res σ := ⟨A.st, A.ret, q, A.diags⟩

/-- run `k` unless the first part already quit -/
def andThen (r : Bool × Acc σ) (k : Acc σ → Res σ) : Res σ := if r.1 then resOf true r.2 else k r.2

section
variable (c : RefCfg) (ev : Visit α → σ → EvalOut × σ)

def loopA (S : MState α) (A : Acc σ) : Res σ :=
  loop (optsOf c) c.follow (guardEv c ev) S A.st A.ret A.diags

@[simp] theorem optsOf_cf : (optsOf c).contentsFirst = c.depthFirst := rfl
@[simp] theorem optsOf_max : (optsOf c).maxDepth = c.maxDepth := rfl
@[simp] theorem optsOf_fl : (optsOf c).followLinks = (c.follow == .always) := rfl
@[simp] theorem optsOf_fr : (optsOf c).followRoot = (c.follow != .never) := rfl

/-- what the walk filters out is out of range anyway -/
theorem skippable_not_inRange (d : Nat) (h : skippable (optsOf c) d = true) : inRange c d = false := by
  simp only [skippable, optsOf, Opts.clamped, Bool.or_eq_true, decide_eq_true_eq] at h
  simp only [inRange, Bool.and_eq_false_iff, decide_eq_false_iff_not]
  split at h <;> omega

/-- the accumulated result after evaluating (or not) one entry -/
def accAfter (A : Acc σ) (r : EvalOut × σ) : Acc σ := ⟨r.2, if r.1.exit = 0 then A.ret else r.1.exit, A.diags⟩

/-- evaluation of one visit as the guarded loop performs it, with continuations -/
def evalAt (v : Visit α) (A : Acc σ) (kPrune kCont : Acc σ → Res σ) : Res σ :=
  if inRange c v.ent.depth then
    let r := ev v A.st
    if r.1.quit then resOf true (accAfter A r)
    else if r.1.prune && !c.depthFirst then kPrune (accAfter A r)
    else kCont (accAfter A r)
  else kCont A

def visitOf (d : Ent α) : Visit α := ⟨d, d.depth == 0 && c.follow != .never, c.follow⟩

/-- an entry that walkdir does not report as an error: dropped when its depth is filtered, else yielded -/
def entryStep (e : Ent α) (S : MState α) : Step α :=
  if skippable (optsOf c) e.depth then .cont S else .yield (.ok e) S

/-- the body of `process_dir`'s loop for a given outcome of `step`, in the reference's terms -/
def stepA (st : Step α) (A : Acc σ) : Res σ :=
  match st with
  | .done => resOf false A
  | .cont S' => loopA c ev S' A
  | .yield i S' =>
    match toVisit c.follow i with
    | none => loopA c ev S' (diag A)
    | some v => evalAt c ev v A (loopA c ev (skipCurrent S')) (loopA c ev S')

theorem loopA_eq (S : MState α) (A : Acc σ) : loopA c ev S A = stepA c ev (step (optsOf c) S) A := by
  rw [loopA, loop]
  split <;> rename_i h <;> refine .trans ?_ (congrArg (stepA c ev · A) h).symm
  · rfl
  · rfl
  · -- an item: a diagnostic, or an evaluation under the depth guard, which is `evalAt`
    simp only [stepA]
    cases toVisit c.follow _ with
    | none => rfl
    | some v =>
      simp only [guardEv, evalAt]
      cases inRange c v.ent.depth
      · rfl
      · cases c.depthFirst
        · simp only [if_true, Bool.false_eq_true, if_false, Bool.not_false, Bool.and_true]; rfl
        · simp only [if_true, Bool.not_true, Bool.and_false, Bool.false_eq_true, if_false]; rfl

theorem stepA_cont (S' : MState α) (A : Acc σ) : stepA c ev (.cont S') A = loopA c ev S' A := rfl

theorem stepA_diag (i : Item α) (hv : toVisit c.follow i = none) (S' : MState α) (A : Acc σ) :
    stepA c ev (.yield i S') A = loopA c ev S' (diag A) := by
  simp only [stepA, hv]

theorem stepA_visit (i : Item α) (v : Visit α) (hv : toVisit c.follow i = some v) (S' : MState α) (A : Acc σ) :
    stepA c ev (.yield i S') A = evalAt c ev v A (loopA c ev (skipCurrent S')) (loopA c ev S') := by
  simp only [stepA, hv]

theorem stepA_entry (e : Ent α) (S' : MState α) (A : Acc σ) :
    stepA c ev (entryStep c e S') A = evalAt c ev (visitOf c e) A (loopA c ev (skipCurrent S')) (loopA c ev S') := by
  unfold entryStep
  cases hs : skippable (optsOf c) e.depth
  · exact stepA_visit c ev _ _ rfl S' A
  · simp [evalAt, visitOf, skippable_not_inRange c _ hs, stepA_cont]

theorem follows_iff (d : Nat) : c.follows d = ((c.follow == .always) || (d == 0 && c.follow != .never)) := by
  unfold RefCfg.follows
  cases c.follow <;> cases (d == 0) <;> rfl

/-! ### `handle_entry` in the reference's terms

walkdir's tests of `follow_links`, `follow_root_links` and `depth == 0` amount to `follows`, and the
entry it builds is the one in `mkVisit`: by computation, for each kind of node, each follow mode,
at depth 0 and below. -/

theorem handleEntry_leaf (S : MState α) (rp : List Name) (d : Nat) (nm : Name) (k : LeafKind) (a : α) :
    handleEntry (optsOf c) S rp d (.leaf nm k a) =
      (let e := (mkVisit c rp d (.leaf nm k a)).ent
       if k == .linkLoop && c.follows d then .yield (.loopErr e) S
       else if k == .linkDangling && c.follows d then .yield (.notFound e) S
       else entryStep c e S) := by
  obtain ⟨df, mn, mx, f⟩ := c
  cases k <;> cases f <;> cases d <;> rfl

theorem handleEntry_dir (S : MState α) (rp : List Name) (d : Nat) (nm : Name) (l r : Bool) (a : α) (kids : List (Node α)) :
    handleEntry (optsOf c) S rp d (.dir nm l r a kids) =
      (let e := (mkVisit c rp d (.dir nm l r a kids)).ent
       if !l || c.follows d then
         let S' : MState α := { S with stack := frameOf rp r kids :: S.stack }
         if c.depthFirst then .cont { S' with deferred := e :: S.deferred } else entryStep c e S'
       else entryStep c e S) := by
  obtain ⟨df, mn, mx, f⟩ := c
  cases l <;> cases f <;> cases d <;> rfl

theorem mkVisit_depth (rp : List Name) (d : Nat) (n : Node α) : (mkVisit c rp d n).ent.depth = d := by
  cases n with
  | leaf nm k a => rw [mkVisit]; cases k == .linkDangling && c.follows d <;> rfl
  | dir => rfl

theorem mkVisit_node (rp : List Name) (d : Nat) (n : Node α) : (mkVisit c rp d n).ent.node = n := by
  cases n with
  | leaf nm k a => rw [mkVisit]; cases k == .linkDangling && c.follows d <;> rfl
  | dir => rfl

theorem mkVisit_rpath (rp : List Name) (d : Nat) (n : Node α) : (mkVisit c rp d n).ent.rpath = rp := by
  cases n with
  | leaf nm k a => rw [mkVisit]; cases k == .linkDangling && c.follows d <;> rfl
  | dir => rfl

/-- `handle_entry` on a leaf, as the loop sees it: a link closing a cycle is diagnosed, anything else
    is evaluated under the reference's entry view -/
theorem stepA_leaf (S : MState α) (rp : List Name) (d : Nat) (nm : Name) (k : LeafKind) (a : α) (A : Acc σ) :
    stepA c ev (handleEntry (optsOf c) S rp d (.leaf nm k a)) A =
      if k == .linkLoop && c.follows d then loopA c ev S (diag A)
      else evalAt c ev (mkVisit c rp d (.leaf nm k a)) A (loopA c ev (skipCurrent S)) (loopA c ev S) := by
  rw [handleEntry_leaf]
  simp only [mkVisit]
  cases k == .linkLoop && c.follows d
  · cases k == .linkDangling && c.follows d
    · exact stepA_entry c ev _ S A
    · exact stepA_visit c ev _ _ rfl S A
  · exact stepA_diag c ev _ rfl S A

/-! ### the reference in the same terms -/

/-- `evalAt` is the reference's `visit` with continuations for its three outcomes -/
theorem evalAt_visit (rp : List Name) (d : Nat) (n : Node α) (A : Acc σ) (kPrune kCont : Acc σ → Res σ) :
    evalAt c ev (mkVisit c rp d n) A kPrune kCont =
      (let v := visit c ev rp d n A
       if v.2.1 then resOf true v.2.2 else if v.1 && !c.depthFirst then kPrune v.2.2 else kCont v.2.2) := by
  unfold visit evalAt
  rw [mkVisit_depth]
  cases inRange c d <;> rfl

/-- the reference's `visit` followed by a continuation that ignores the prune mark -/
theorem andThen_visit (rp : List Name) (d : Nat) (n : Node α) (A : Acc σ) (k : Acc σ → Res σ) :
    andThen (let r := visit c ev rp d n A; (r.2.1, r.2.2)) k = evalAt c ev (mkVisit c rp d n) A k k := by
  rw [evalAt_visit]
  simp only [ite_self]
  rfl

/-- a piece of the reference that ends in a quit, or else is followed by another, then `K` -/
theorem andThen_bind (r : Bool × Acc σ) (f : Acc σ → Bool × Acc σ) (K : Acc σ → Res σ) :
    andThen (if r.1 then r else f r.2) K = andThen r fun A => andThen (f A) K := by
  obtain ⟨q, A⟩ := r
  cases q <;> rfl

/-- where the prune mark has no effect (post-order) or is never set, the prune continuation is immaterial -/
theorem evalAt_noprune (v : Visit α) (A : Acc σ) (k1 k2 k : Acc σ → Res σ)
    (h : c.depthFirst = false → ∀ s, (ev v s).1.prune = false) : evalAt c ev v A k1 k = evalAt c ev v A k2 k := by
  unfold evalAt
  cases hd : c.depthFirst
  · simp [h hd]
  · simp

theorem refNode_leaf (rp : List Name) (d : Nat) (nm : Name) (k : LeafKind) (a : α) (A : Acc σ) (K : Acc σ → Res σ) :
    andThen (refNode c ev rp d (.leaf nm k a) A) K =
      if k == .linkLoop && c.follows d then K (if d ≤ c.maxDepth then diag A else A)
      else evalAt c ev (mkVisit c rp d (.leaf nm k a)) A K K := by
  rw [refNode]
  cases k == .linkLoop && c.follows d
  · exact andThen_visit c ev rp d _ A K
  · rfl

/-- the part of the reference below a directory at depth `d` -/
def belowRef (rp : List Name) (d : Nat) (descends readable : Bool) (kids : List (Node α)) (A : Acc σ) : Bool × Acc σ :=
  if descends then
    if readable then refKids c ev rp (d + 1) kids A else (false, diag A)
  else (false, A)

theorem refNode_dir (rp : List Name) (d : Nat) (nm : Name) (l r : Bool) (a : α) (kids : List (Node α)) (A : Acc σ)
    (K : Acc σ → Res σ) :
    andThen (refNode c ev rp d (.dir nm l r a kids) A) K =
      (let v := mkVisit c rp d (.dir nm l r a kids)
       let below := belowRef c ev rp d ((!l || c.follows d) && decide (d < c.maxDepth)) r kids
       if c.depthFirst then andThen (below A) fun A' => evalAt c ev v A' K K
       else evalAt c ev v A K fun A' => andThen (below A') K) := by
  rw [refNode]
  cases hd : c.depthFirst
  · simp only [Bool.false_eq_true, if_false]
    rw [evalAt_visit, hd]
    generalize visit c ev rp d (.dir nm l r a kids) A = v
    obtain ⟨p, q, A'⟩ := v
    cases q <;> cases p <;> rfl
  · exact (andThen_bind (belowRef c ev rp d _ r kids A) _ K).trans
      (congrArg _ (funext fun A' => andThen_visit c ev rp d _ A' K))

/-! ### the prune hypothesis of pre-order -/

/-- the evaluator marks for pruning only entries for which the walk pushed a listing -/
def PruneOk : Prop :=
  ∀ v s, (ev v s).1.prune = true →
    match v.ent.node with
    | .dir _ l _ _ _ => (!l || c.follows v.ent.depth) = true
    | .leaf _ _ _ => False

/-- the same for one visit … -/
def PruneOkV (v : Visit α) : Prop :=
  ∀ s, (ev v s).1.prune = true →
    match v.ent.node with
    | .dir _ l _ _ _ => (!l || c.follows v.ent.depth) = true
    | .leaf _ _ _ => False

/-- … and for the visits of one tree: every node as the reference visits it (`mkVisit`) -/
def PruneOkN (rp : List Name) (d : Nat) : Node α → Prop
  -- (a link that closes a cycle is diagnosed where links are followed, not visited)
  | .leaf nm k a => (k == .linkLoop && c.follows d) = false → PruneOkV c ev (mkVisit c rp d (.leaf nm k a))
  | .dir nm l r a kids => PruneOkV c ev (mkVisit c rp d (.dir nm l r a kids)) ∧ PruneOkK rp (d + 1) kids
where PruneOkK (rp : List Name) (d : Nat) : List (Node α) → Prop
  | [] => True
  | n :: ns => PruneOkN (n.name :: rp) d n ∧ PruneOkK rp d ns

mutual
theorem pruneOkN_of_pruneOk (hp : PruneOk c ev) (rp : List Name) (d : Nat) (n : Node α) : PruneOkN c ev rp d n := by
  match n with
  | .leaf nm k a => exact fun _ s h => hp _ s h
  | .dir nm l r a kids => exact ⟨fun s h => hp _ s h, pruneOkK_of_pruneOk hp rp (d + 1) kids⟩
theorem pruneOkK_of_pruneOk (hp : PruneOk c ev) (rp : List Name) (d : Nat) (kids : List (Node α)) :
    PruneOkN.PruneOkK c ev rp d kids := by
  match kids with
  | [] => trivial
  | n :: ns => exact ⟨pruneOkN_of_pruneOk hp (n.name :: rp) d n, pruneOkK_of_pruneOk hp rp d ns⟩
end

/-- a visit the walk did not push a listing for is not pruned -/
theorem PruneOkV.not_entered {rp : List Name} {d : Nat} {n : Node α} (h : PruneOkV c ev (mkVisit c rp d n))
    (hn : match n with | .dir _ l _ _ _ => (!l || c.follows d) = false | .leaf _ _ _ => True) (s : σ) :
    (ev (mkVisit c rp d n) s).1.prune = false := by
  have := h s
  rw [mkVisit_node, mkVisit_depth] at this
  cases hpr : (ev (mkVisit c rp d n) s).1.prune
  · rfl
  · cases n <;> simp_all

/-! ### the machine between two entries

In post-order one directory is deferred per open listing; a node is handled with as many deferred
as listings are open (`node_ref`), a listing is walked with one more (`kids_ref`), and once the
listing is dropped that one is due (`emit_deferred`). -/

theorem loopA_nil (A : Acc σ) : loopA c ev ⟨none, [], []⟩ A = resOf false A := by
  rw [loopA_eq]
  cases hd : c.depthFirst <;> simp [step, hd, stepA]

/-- post-order: with one more directory deferred than listings are open, it is evaluated next -/
theorem emit_deferred (hpost : c.depthFirst = true) (fs : List (Frame α)) (d : Ent α) (ds : List (Ent α)) (A : Acc σ)
    (k0 : Acc σ → Res σ) (hd : d.depth = fs.length) (hlen : ds.length = fs.length) :
    loopA c ev ⟨none, fs, d :: ds⟩ A = evalAt c ev (visitOf c d) A k0 (loopA c ev ⟨none, fs, ds⟩) := by
  rw [loopA_eq, evalAt_noprune c ev _ A k0 (loopA c ev (skipCurrent ⟨none, fs, ds⟩)) _ (by simp [hpost]),
    ← stepA_entry]
  cases fs with
  | nil =>
    cases ds with
    | cons _ _ => cases hlen
    | nil =>
      simp only [step, optsOf_cf, hpost, if_true, entryStep, hd, List.length_nil]
      cases skippable (optsOf c) 0
      · rfl
      · exact (loopA_nil c ev A).symm
  | cons f fs =>
    have hlt : (f :: fs).length < (d :: ds).length := by simp [hlen]
    simp only [step, optsOf_cf, hpost, Bool.true_and, decide_eq_true_eq, hlt, if_true, entryStep, hd]

/-- one iteration on an open listing when no deferred directory is due -/
theorem step_frame (f : Frame α) (fs : List (Frame α)) (dfr : List (Ent α))
    (hdf : c.depthFirst = true → dfr.length = fs.length + 1) :
    step (optsOf c) ⟨none, f :: fs, dfr⟩ =
      if fs.length + 1 > c.maxDepth then .cont ⟨none, fs, dfr⟩
      else if f.pendingErr then .yield (.readErr f.rpath fs.length) ⟨none, { f with pendingErr := false } :: fs, dfr⟩
      else match f.kids with
        | [] => .cont ⟨none, fs, dfr⟩
        | n :: ns =>
          handleEntry (optsOf c) ⟨none, { f with kids := ns } :: fs, dfr⟩ (n.name :: f.rpath) (fs.length + 1) n := by
  have hnl : ¬ (c.depthFirst = true ∧ fs.length + 1 < dfr.length) := fun ⟨h, hl⟩ => by simp [hdf h] at hl
  simp only [step, optsOf_cf, Bool.and_eq_true, decide_eq_true_eq, List.length_cons, hnl, if_false, optsOf_max]
  rfl

/-- a listing that is exhausted, or lies beyond maxdepth, is dropped -/
theorem pop (f : Frame α) (fs : List (Frame α)) (dfr : List (Ent α)) (A : Acc σ)
    (hdf : c.depthFirst = true → dfr.length = fs.length + 1)
    (hgo : fs.length + 1 > c.maxDepth ∨ (f.kids = [] ∧ f.pendingErr = false)) :
    loopA c ev ⟨none, f :: fs, dfr⟩ A = loopA c ev ⟨none, fs, dfr⟩ A := by
  rw [loopA_eq, step_frame c f fs dfr hdf]
  by_cases hm : fs.length + 1 > c.maxDepth
  · rw [if_pos hm]; rfl
  · rw [if_neg hm, (hgo.resolve_left hm).1, (hgo.resolve_left hm).2]; rfl

theorem below_ref (rp : List Name) (readable : Bool) (kids : List (Node α))
    (fs : List (Frame α)) (dfr : List (Ent α)) (A : Acc σ) (hdf : c.depthFirst = true → dfr.length = fs.length + 1)
    (hk : ∀ A, fs.length + 1 ≤ c.maxDepth →
      loopA c ev ⟨none, ⟨rp, kids, false⟩ :: fs, dfr⟩ A =
        andThen (refKids c ev rp (fs.length + 1) kids A) (loopA c ev ⟨none, fs, dfr⟩)) :
    loopA c ev ⟨none, frameOf rp readable kids :: fs, dfr⟩ A =
      andThen (belowRef c ev rp fs.length (decide (fs.length < c.maxDepth)) readable kids A)
        (loopA c ev ⟨none, fs, dfr⟩) := by
  unfold belowRef
  by_cases hm : fs.length < c.maxDepth
  · simp only [hm, decide_true, if_true]
    cases readable with
    | true => exact hk A hm
    | false =>
      -- a listing that could not be read: one diagnostic, then it is dropped
      show loopA c ev ⟨none, ⟨rp, [], true⟩ :: fs, dfr⟩ A = _
      rw [loopA_eq, step_frame c _ fs dfr hdf, if_neg (by omega), if_pos rfl, stepA_diag c ev _ rfl]
      exact pop c ev _ fs dfr (diag A) hdf (Or.inr ⟨rfl, rfl⟩)
  · simp only [hm, decide_false, Bool.false_eq_true, if_false]
    exact pop c ev _ fs dfr A hdf (Or.inl (by omega))

/-! ### the refinement -/

mutual
/-- `handle_entry` on a node, then the loop, is the reference traversal of the node, then the loop -/
theorem node_ref (n : Node α) (rp : List Name) (fs : List (Frame α)) (dfr : List (Ent α))
    (hp : c.depthFirst = false → PruneOkN c ev rp fs.length n) (hlen : c.depthFirst = true → dfr.length = fs.length)
    (hmax : fs.length ≤ c.maxDepth) (A : Acc σ) :
    stepA c ev (handleEntry (optsOf c) ⟨none, fs, dfr⟩ rp fs.length n) A =
      andThen (refNode c ev rp fs.length n A) (loopA c ev ⟨none, fs, dfr⟩) := by
  match n with
  | .leaf nm k a =>
    rw [stepA_leaf, refNode_leaf, if_pos hmax]
    cases h : k == .linkLoop && c.follows fs.length
    · exact evalAt_noprune c ev _ A _ _ _ fun hpre => (hp hpre h).not_entered c ev trivial
    · rfl
  | .dir nm l r a kids =>
    rw [handleEntry_dir, refNode_dir]
    have hb := fun dfr' hdf A' => below_ref c ev rp r kids fs dfr' A' hdf
      fun A'' h => kids_ref kids rp fs dfr' (fun hpre => (hp hpre).2) hdf h A''
    cases he : (!l || c.follows fs.length)
    · -- a link to a directory that is not followed here: an entry like any other
      simp only [Bool.false_eq_true, if_false, Bool.false_and, belowRef]
      rw [stepA_entry]
      have hnp := fun hpre => (hp hpre).1.not_entered c ev he
      cases c.depthFirst <;> exact evalAt_noprune c ev _ A _ _ _ hnp
    · simp only [if_true, Bool.true_and]
      cases hd : c.depthFirst
      · -- the directory, then (unless it asks to prune, which drops the listing just pushed) its listing
        simp only [Bool.false_eq_true, if_false]
        rw [stepA_entry]
        congr 1
        funext A'
        exact hb dfr (by simp [hd]) A'
      · -- the directory is deferred: its listing, then the directory
        simp only [if_true]
        rw [stepA_cont, hb (_ :: dfr) (fun h => by simp [hlen h]) A]
        congr 1
        funext A'
        exact emit_deferred c ev hd fs _ dfr A' _ (mkVisit_depth c rp _ _) (hlen hd)
/-- the loop on an open listing is the reference traversal of the listing, then the loop without it -/
theorem kids_ref (kids : List (Node α)) (rp : List Name) (fs : List (Frame α)) (dfr : List (Ent α))
    (hp : c.depthFirst = false → PruneOkN.PruneOkK c ev rp (fs.length + 1) kids)
    (hdf : c.depthFirst = true → dfr.length = fs.length + 1) (hmax : fs.length + 1 ≤ c.maxDepth) (A : Acc σ) :
    loopA c ev ⟨none, ⟨rp, kids, false⟩ :: fs, dfr⟩ A =
      andThen (refKids c ev rp (fs.length + 1) kids A) (loopA c ev ⟨none, fs, dfr⟩) := by
  match kids with
  | [] => exact pop c ev _ fs dfr A hdf (Or.inr ⟨rfl, rfl⟩)
  | n :: ns =>
    rw [loopA_eq, step_frame c _ fs dfr hdf, if_neg (by omega), if_neg (by simp)]
    refine (node_ref n (n.name :: rp) (⟨rp, ns, false⟩ :: fs) dfr (fun hpre => (hp hpre).1) hdf hmax A).trans ?_
    rw [refKids]
    exact (congrArg _ (funext fun A' => kids_ref ns rp fs dfr (fun hpre => (hp hpre).2) hdf hmax A')).trans
      (andThen_bind _ _ _).symm
end

/-- `process_dir` on a starting point computes exactly the reference traversal.  In post-order
    unconditionally; in pre-order as long as a prune request on a visit *of this tree* concerns a
    directory whose listing the walk pushed. -/
theorem processRoot_ref (root : Node α) (hp : c.depthFirst = false → PruneOkN c ev [] 0 root) (acc : σ) :
    processRoot c ev root acc =
      (let r := refRoot c ev root ⟨acc, 0, 0⟩
       resOf r.1 r.2) := by
  show loopA c ev (MState.init root) ⟨acc, 0, 0⟩ = _
  rw [loopA_eq]
  refine (node_ref c ev root [] [] [] hp (fun _ => rfl) (Nat.zero_le _) ⟨acc, 0, 0⟩).trans ?_
  rw [funext (loopA_nil c ev)]
  show andThen (refRoot c ev root ⟨acc, 0, 0⟩) (resOf false) = _
  generalize refRoot c ev root ⟨acc, 0, 0⟩ = r
  obtain ⟨q, A⟩ := r
  cases q <;> rfl

theorem kids_pre (hpre : c.depthFirst = false) (kids : List (Node α)) (rp : List Name)
    (fs : List (Frame α)) (dfr : List (Ent α)) (hp : PruneOkN.PruneOkK c ev rp (fs.length + 1) kids) (A : Acc σ) (hmax : fs.length + 1 ≤ c.maxDepth) :
    loopA c ev ⟨none, ⟨rp, kids, false⟩ :: fs, dfr⟩ A =
      andThen (refKids c ev rp (fs.length + 1) kids A) (loopA c ev ⟨none, fs, dfr⟩) :=
  kids_ref c ev kids rp fs dfr (fun _ => hp) (by simp [hpre]) hmax A

theorem kids_post (hpost : c.depthFirst = true) (kids : List (Node α)) (rp : List Name)
    (fs : List (Frame α)) (d : Ent α) (ds : List (Ent α)) (A : Acc σ) (hlen : fs.length = ds.length)
    (hd : d.depth = fs.length) (hmax : fs.length + 1 ≤ c.maxDepth) :
    loopA c ev ⟨none, ⟨rp, kids, false⟩ :: fs, d :: ds⟩ A =
      andThen (refKids c ev rp (fs.length + 1) kids A)
        (fun A' => evalAt c ev (visitOf c d) A' (loopA c ev ⟨none, fs, ds⟩) (loopA c ev ⟨none, fs, ds⟩)) := by
  rw [kids_ref c ev kids rp fs (d :: ds) (by simp [hpost]) (fun _ => by simp [hlen]) hmax A]
  congr 1
  funext A'
  exact emit_deferred c ev hpost fs d ds A' _ hd hlen.symm

/-- Pre-order: `process_dir` on a starting point computes exactly the reference traversal, as long
    as a prune request on a visit *of this tree* concerns a directory whose listing the walk pushed
    (`processRoot_ref` with the hypothesis stated outright; `hpre` itself is not used). -/
theorem processRoot_preN (hpre : c.depthFirst = false) (root : Node α) (hp : PruneOkN c ev [] 0 root) (acc : σ) :
    processRoot c ev root acc =
      (let r := refRoot c ev root ⟨acc, 0, 0⟩
       resOf r.1 r.2) :=
  processRoot_ref c ev root (fun _ => hp) acc

/-- Pre-order, for an evaluator that never asks to prune anything but a pushed directory. -/
theorem processRoot_pre (hpre : c.depthFirst = false) (hp : PruneOk c ev) (root : Node α) (acc : σ) :
    processRoot c ev root acc =
      (let r := refRoot c ev root ⟨acc, 0, 0⟩
       resOf r.1 r.2) :=
  processRoot_ref c ev root (fun _ => pruneOkN_of_pruneOk c ev hp [] 0 root) acc

/-- the one configuration in which walkdir alone loses post-order: a starting point that is a link
    to a directory, followed only because it is a starting point (-H) -/
def HRootLink (n : Node α) : Prop :=
  c.follow = .roots ∧ ∃ nm r a kids, n = .dir nm true r a kids

/-- Post-order: the same, for every starting point (`process_dir` walks `LINK/` for a link to a
    directory under -H, so that configuration is no exception). -/
theorem processRoot_postAny (hpost : c.depthFirst = true) (root : Node α) (acc : σ) :
    processRoot c ev root acc =
      (let r := refRoot c ev root ⟨acc, 0, 0⟩
       resOf r.1 r.2) :=
  processRoot_ref c ev root (fun h => by simp [hpost] at h) acc

end
end FuModel.Find.Walk
