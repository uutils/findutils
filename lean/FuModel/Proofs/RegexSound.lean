import FuModel.Find.Run
import FuModel.Spec.RegexLang

/-!
# C17 — the tests -regex and -iregex match iff the whole path is in the pattern's language

Model: `Find/Regex.lean`: patterns as abstract syntax (the four concrete syntaxes are printers of
it), `firstEndK` = Oniguruma's anchored backtracking match in priority order, `matchesRe` =
`Regex::is_match` (first match's length = subject's length); the positional `-regextype` state
(`regexTypesOk`, `Find/Run.lean`).  Specification: `Spec/RegexLang.lean`.

Proved: the test never accepts a prefix or substring — if it is true the whole path is matched by
the pattern (`C17_sound`); the mechanism is *not* complete, with a machine-checked witness
(`C17_first_is_not_whole`, `C17_alt_order`) — this is the known finding of the property; the
syntax in force at a `-regex` is that of the nearest preceding `-regextype`, whatever lies between
(`C17_regextype_positional`); case folding.
-/
namespace FuModel.Find.Regex

/-- `r` matches the subject from position `pos` up to position `p` -/
inductive Matches (icase : Bool) (s : List Char) : Re → Nat → Nat → Prop
  | chr (c x : Char) (pos : Nat) : s[pos]? = some x → accepts1 icase (.chr c) x = true → Matches icase s (.chr c) pos (pos + 1)
  | any (x : Char) (pos : Nat) : s[pos]? = some x → accepts1 icase .any x = true → Matches icase s .any pos (pos + 1)
  | set (neg : Bool) (ms : List SetMem) (x : Char) (pos : Nat) :
      s[pos]? = some x → accepts1 icase (.set neg ms) x = true → Matches icase s (.set neg ms) pos (pos + 1)
  | seq {a b : Re} {pos m p : Nat} : Matches icase s a pos m → Matches icase s b m p → Matches icase s (.seq a b) pos p
  | altL {a b : Re} {pos p : Nat} : Matches icase s a pos p → Matches icase s (.alt a b) pos p
  | altR {a b : Re} {pos p : Nat} : Matches icase s b pos p → Matches icase s (.alt a b) pos p
  | starNil (a : Re) (pos : Nat) : Matches icase s (.star a) pos pos
  | starCons {a : Re} {pos m p : Nat} : Matches icase s a pos m → Matches icase s (.star a) m p → Matches icase s (.star a) pos p
  | plus {a : Re} {pos m p : Nat} : Matches icase s a pos m → Matches icase s (.star a) m p → Matches icase s (.plus a) pos p
  | optNil (a : Re) (pos : Nat) : Matches icase s (.opt a) pos pos
  | optSome {a : Re} {pos p : Nat} : Matches icase s a pos p → Matches icase s (.opt a) pos p
  | intNil (hi : Nat) (a : Re) (pos : Nat) : Matches icase s (.interval 0 hi a) pos pos
  | intCons {lo hi : Nat} {a : Re} {pos m p : Nat} : 0 < lo ∨ 0 < hi →
      Matches icase s a pos m → Matches icase s (.interval (lo - 1) (hi - 1) a) m p → Matches icase s (.interval lo hi a) pos p
  | group {a : Re} {pos p : Nat} : Matches icase s a pos p → Matches icase s (.group a) pos p

/-- soundness does not care which branch of a backtracking choice produced the result -/
theorem orElse_some {a b : Option Nat} {e : Nat} (h : (a <|> b) = some e) : a = some e ∨ b = some e := by
  cases a with
  | none => exact .inr h
  | some _ => exact .inl h

theorem firstEndK_sound (icase : Bool) (s : List Char) (fuel : Nat) :
    ∀ (r : Re) (pos : Nat) (k : Nat → Option Nat) (e : Nat),
      firstEndK icase s fuel r pos k = some e → ∃ p, Matches icase s r pos p ∧ k p = some e := by
  induction fuel with
  | zero => intro r pos k e h; simp [firstEndK] at h
  | succ fuel ih =>
    intro r pos k e h
    -- a match of `r` made of one match of `a`, or of a match of `a` followed by one of `b`
    have one {a r : Re} (mk : ∀ {p}, Matches icase s a pos p → Matches icase s r pos p)
        (h : firstEndK icase s fuel a pos k = some e) : ∃ p, Matches icase s r pos p ∧ k p = some e := by
      obtain ⟨p, hp, hk⟩ := ih a pos k e h
      exact ⟨p, mk hp, hk⟩
    have two {a b r : Re} (mk : ∀ {m p}, Matches icase s a pos m → Matches icase s b m p → Matches icase s r pos p)
        (h : firstEndK icase s fuel a pos (fun p => firstEndK icase s fuel b p k) = some e) :
        ∃ p, Matches icase s r pos p ∧ k p = some e := by
      obtain ⟨m, hm, hk⟩ := ih a pos _ e h
      obtain ⟨p, hp, hk'⟩ := ih b m k e hk
      exact ⟨p, mk hm hp, hk'⟩
    cases r with
    | chr _ | any | set _ _ =>
      simp only [firstEndK] at h
      split at h
      · split at h
        · exact ⟨pos + 1, by constructor <;> assumption, h⟩
        · cases h
      · cases h
    | seq a b => exact two .seq h
    | alt a b => exact (orElse_some h).elim (one .altL) (one .altR)
    | star a =>
      rcases orElse_some h with h | h
      · obtain ⟨m, hm, hk⟩ := ih a pos _ e h
        split at hk
        · exact ⟨pos, .starNil a pos, hk⟩
        · obtain ⟨p, hp, hk'⟩ := ih (.star a) m k e hk
          exact ⟨p, .starCons hm hp, hk'⟩
      · exact ⟨pos, .starNil a pos, h⟩
    | plus a => exact two .plus h
    | opt a => exact (orElse_some h).elim (one .optSome) fun h => ⟨pos, .optNil a pos, h⟩
    | interval lo hi a =>
      simp only [firstEndK] at h
      split at h
      · exact two (.intCons (.inl ‹_›)) h
      · obtain rfl : lo = 0 := by omega
        split at h
        · exact (orElse_some h).elim (two (.intCons (lo := 0) (.inr ‹_›))) fun h => ⟨pos, .intNil hi a pos, h⟩
        · exact ⟨pos, .intNil hi a pos, h⟩
    | group a => exact one .group h

/-- The test never accepts a prefix or a substring: if `-regex` is true, the pattern matches the
    path from its first to its last character. -/
theorem C17_sound (icase : Bool) (r : Re) (s : List Char) (h : matchesRe icase r s = true) :
    Matches icase s r 0 s.length := by
  obtain ⟨p, hp, hk⟩ := firstEndK_sound icase s _ r 0 some s.length (by simpa [matchesRe, firstEnd] using h)
  cases hk
  exact hp

/-- … but it is not complete: the engine's first match need not be the whole path even when the
    whole path matches.  `a|ab` does not select `ab` — -/
theorem C17_first_is_not_whole :
    let r := Re.alt (.chr 'a') (.seq (.chr 'a') (.chr 'b'))
    matchesRe false r ['a', 'b'] = false ∧ Matches false ['a', 'b'] r 0 2 := by
  refine ⟨by decide, ?_⟩
  exact .altR (.seq (.chr 'a' 'a' 0 rfl (by decide)) (.chr 'b' 'b' 1 rfl (by decide)))

/-- — and the order in which alternatives are written changes the result. -/
theorem C17_alt_order :
    matchesRe false (.alt (.chr 'a') (.seq (.chr 'a') (.chr 'b'))) ['a', 'b'] = false ∧
    matchesRe false (.alt (.seq (.chr 'a') (.chr 'b')) (.chr 'a')) ['a', 'b'] = true := by decide

/-- The language itself does not depend on the order of alternatives. -/
theorem C17_alt_comm (icase : Bool) (s : List Char) (a b : Re) (pos p : Nat) :
    Matches icase s (.alt a b) pos p ↔ Matches icase s (.alt b a) pos p := by
  constructor <;> intro h <;> cases h with
  | altL h => exact .altR h
  | altR h => exact .altL h

/-- -iregex: letters are compared without regard to case. -/
theorem C17_icase (c x : Char) : accepts1 true (.chr c) x = (foldA c == foldA x) := rfl

section spec
open FuModel.Spec.RegexLang

/-! ### the executable language specification is sound
`Spec/RegexLang.lean` (`member`, the predicate of the correspondence runs) only says "in the
language" of strings that the relation `Matches` - the one the theorems of `Props/C17.lean` are
stated with - contains.
-/

theorem slice_take {full : List Char} {pos n k : Nat} {s : List Char}
    (h : (full.drop pos).take n = s) (hk : k ≤ n) : (full.drop pos).take k = s.take k := by
  rw [← h, List.take_take]; congr 1; omega

theorem slice_drop {full : List Char} {pos n : Nat} {s : List Char}
    (h : (full.drop pos).take n = s) (k : Nat) : (full.drop (pos + k)).take (n - k) = s.drop k := by
  rw [← h, List.drop_take, List.drop_drop]

theorem slice_get {full : List Char} {pos : Nat} {c : Char} (h : (full.drop pos).take 1 = [c]) : full[pos]? = some c := by
  have : (full.drop pos).head? = some c := by
    cases hd : full.drop pos with
    | nil => rw [hd] at h; simp at h
    | cons x xs => rw [hd] at h; simp at h; simp [h]
  rw [List.head?_drop] at this
  exact this

/-- the executable language specification only accepts strings in the inductive language -/
theorem inLang_matches (icase : Bool) : ∀ (fuel : Nat) (r : Re) (s : List Char), inLang icase fuel r s = true →
    ∀ (full : List Char) (pos : Nat), (full.drop pos).take s.length = s →
      Matches icase full r pos (pos + s.length) := by
  intro fuel
  induction fuel with
  | zero => intro r s h; simp [inLang] at h
  | succ fuel ih =>
    intro r s h full pos hs
    -- the empty string, and a string cut in two at `k`
    have empty {r' : Re} (h0 : s.isEmpty = true) (m : Matches icase full r' pos pos) :
        Matches icase full r' pos (pos + s.length) := by
      obtain rfl : s = [] := by simpa using h0
      exact m
    have cut {a b : Re} {k : Nat} (hk : k ≤ s.length) (ha : inLang icase fuel a (s.take k) = true)
        (hb : inLang icase fuel b (s.drop k) = true) :
        Matches icase full a pos (pos + k) ∧ Matches icase full b (pos + k) (pos + s.length) := by
      have h1 := ih a (s.take k) ha full pos (by simpa [Nat.min_eq_left hk] using slice_take hs hk)
      have h2 := ih b (s.drop k) hb full (pos + k) (by simpa using slice_drop hs k)
      simp only [List.length_take, Nat.min_eq_left hk] at h1
      simp only [List.length_drop] at h2
      rw [show pos + k + (s.length - k) = pos + s.length by omega] at h2
      exact ⟨h1, h2⟩
    cases r with
    | chr _ | any | set _ _ =>
      simp only [inLang] at h
      split at h
      · constructor <;> first | exact slice_get (by simpa using hs) | exact h
      · cases h
    | seq a b =>
      simp only [inLang, List.any_eq_true, List.mem_range, Bool.and_eq_true] at h
      obtain ⟨k, hk, ha, hb⟩ := h
      obtain ⟨h1, h2⟩ := cut (by omega) ha hb
      exact .seq h1 h2
    | alt a b =>
      simp only [inLang, Bool.or_eq_true] at h
      rcases h with h | h
      · exact .altL (ih a s h full pos hs)
      · exact .altR (ih b s h full pos hs)
    | star a =>
      simp only [inLang, Bool.or_eq_true, List.any_eq_true, List.mem_range, Bool.and_eq_true] at h
      rcases h with h | ⟨k, hk, ha, hb⟩
      · exact empty h (.starNil a pos)
      · obtain ⟨h1, h2⟩ := cut (k := k + 1) (by omega) ha hb
        exact .starCons h1 h2
    | plus a =>
      simp only [inLang] at h
      cases ih (.seq a (.star a)) s h full pos hs with
      | seq h1 h2 => exact .plus h1 h2
    | opt a =>
      simp only [inLang, Bool.or_eq_true] at h
      rcases h with h | h
      · exact empty h (.optNil a pos)
      · exact .optSome (ih a s h full pos hs)
    | interval lo hi a =>
      simp only [inLang] at h
      split at h
      · cases ih _ s h full pos hs with
        | seq h1 h2 => exact .intCons (.inl ‹_›) h1 h2
      · obtain rfl : lo = 0 := by omega
        split at h
        · simp only [Bool.or_eq_true] at h
          rcases h with h | h
          · exact empty h (.intNil hi a pos)
          · cases ih _ s h full pos hs with
            | seq h1 h2 => exact .intCons (.inr ‹_›) h1 h2
        · exact empty h (.intNil hi a pos)
    | group a =>
      simp only [inLang] at h
      exact .group (ih a s h full pos hs)

end spec

end FuModel.Find.Regex

namespace FuModel.Find.Run
open FuModel.Find.Regex

/-- arguments that are neither `-regextype` nor `-regex` leave the state alone -/
theorem regexTypesOk_skip (cur : RType) (mid l : List Arg)
    (hmid : ∀ a ∈ mid, (∀ t', a ≠ .regextype t') ∧ (∀ ic' p' re', a ≠ .regex ic' p' re')) :
    regexTypesOk cur (mid ++ l) = regexTypesOk cur l := by
  induction mid with
  | nil => rfl
  | cons a as ih =>
    have ha := hmid a (by simp)
    rw [List.cons_append, regexTypesOk.eq_4 _ _ _ ha.1 ha.2]
    exact ih fun x hx => hmid x (by simp [hx])

/-- The syntax in force at a `-regex` is that of the nearest preceding `-regextype`, whatever
    tokens — parentheses included — lie between them. -/
theorem C17_regextype_positional (cur t p : RType) (mid rest : List Arg) (ic : Bool) (re : Re)
    (hmid : ∀ a ∈ mid, (∀ t', a ≠ .regextype t') ∧ (∀ ic' p' re', a ≠ .regex ic' p' re'))
    (h : regexTypesOk cur (.regextype t :: (mid ++ .regex ic p re :: rest)) = true) : p = t := by
  rw [regexTypesOk, regexTypesOk_skip t mid _ hmid] at h
  simp [regexTypesOk] at h
  exact h.1.symm

example : regexTypesOk .emacs [.regextype .posixExtended, .tok .lp, .regex false .posixExtended .any, .tok .rp] = true := by decide
example : regexTypesOk .emacs [.tok .lp, .regextype .grep, .tok .rp, .regex false .emacs .any] = false := by decide

end FuModel.Find.Run
