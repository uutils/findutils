import FuModel.Proofs.XargsBatch
import FuModel.Xargs.ExecLimit

namespace FuModel.Xargs

/-- the command word and the initial arguments pass the same chain as the input arguments -/
theorem initState_eq_foldTry (lim : Limits) (st : LState) (cmd : List (List UInt8)) :
    initState lim st cmd = foldTry lim st (cmd.map (⟨·, .initial⟩)) := by
  induction cmd generalizing st with
  | nil => rfl
  | cons c cs ih =>
    simp only [initState, List.map_cons, foldTry]
    cases tryArg lim st ⟨c, .initial⟩ <;> simp [ih]

/-- What the chain has charged once it has accepted `b`, whatever the kinds: the two sizes in
    closed form, both within their limits if they were before, every argument within the cap. -/
theorem foldTry_sizes {lim : Limits} {st st' : LState} {b : List Arg}
    (h : foldTry lim st b = some st') :
    st'.sizeS = st.sizeS + totalCost b ∧
    st'.sizeSys = st.sizeSys + totalCost b + lim.ptr * b.length ∧
    (∀ a ∈ b, cost a.bytes ≤ lim.maxArg) ∧
    (∀ s, lim.s = some s → st.sizeS ≤ s → st'.sizeS ≤ s) ∧
    (st.sizeSys ≤ lim.sys → st'.sizeSys ≤ lim.sys) := by
  induction b generalizing st with
  | nil => simp [foldTry] at h; subst h; simp [totalCost]
  | cons a b ih =>
    obtain ⟨⟨_, _, h3, h4, h5⟩, h⟩ := (foldTry_cons_eq_some lim st st' a b).1 h
    obtain ⟨i1, i2, i3, i4, i5⟩ := ih h
    simp only [stepState] at i1 i2 i4 i5
    refine ⟨by rw [i1, totalCost_cons, Nat.add_assoc],
      by simp +arith only [i2, totalCost_cons, List.length_cons, Nat.mul_succ],
      by simpa using ⟨h4, i3⟩, fun s hs _ => i4 s hs (h3 s hs), fun _ => i5 h5⟩

theorem strCostL_map_length (xs : List Arg) :
    strCostL ((xs.map (·.bytes)).map List.length) = totalCost xs := by
  induction xs with
  | nil => rfl
  | cons x xs ih => simp only [strCostL, totalCost, cost, List.map_cons, List.sum_cons] at *; omega

/-- The arithmetic of `execAccepts_of_chain`: `T` the characters of the words with their
    terminators, `w` their number, `E`/`e` the same for the environment, `F` the file name.
    The chain's test `h` leaves 2048 bytes of head-room, which cover the file name. -/
theorem exec_arith {argMax F T E w e : Nat} (hw : 0 < w) (hroom : 2048 + (E + 8 * e) ≤ argMax)
    (hF : F ≤ 2048) (h : T + 8 * w ≤ argMax - 2048 - (E + 8 * e)) :
    8 * (max w 1 + e) < argMax ∧ F + T + E ≤ argMax - 8 * (max w 1 + e) := by
  rw [Nat.max_eq_left hw]
  rw [Nat.sub_sub, Nat.le_sub_iff_add_le hroom] at h
  exact ⟨Nat.lt_of_lt_of_le (by simp +arith) h,
    Nat.le_sub_of_add_le (Nat.le_trans (by simpa +arith using hF) h)⟩

/-- Whatever words pass the limiter chain from the empty state, configured as `new_system` does,
    form a command line that exec accepts. -/
theorem execAccepts_of_chain (lim : Limits) (envp : List (List UInt8)) (argMax : Nat)
    (file : List UInt8) (ws : List Arg) (st : LState)
    (hsys : lim.sys = sysBudget argMax (envp.map List.length))
    (hptr : lim.ptr = 8) (hmax : lim.maxArg = 131072)
    (hroom : 2048 + (strCostL (envp.map List.length) + 8 * envp.length) ≤ argMax)
    (hfile : file.length + 1 ≤ 2048)
    (henv : ∀ e ∈ envp, e.length + 1 ≤ 131072)
    (hne : ws ≠ []) (h : foldTry lim LState.zero ws = some st) :
    execAccepts argMax file (ws.map (·.bytes)) envp = true := by
  obtain ⟨_, h2, h3, _, h5⟩ := foldTry_sizes h
  have h5 := h5 (Nat.zero_le _)
  rw [h2, hsys, hptr, sysBudget, List.length_map, show LState.zero.sizeSys = 0 from rfl,
    Nat.zero_add] at h5
  obtain ⟨g1, g2⟩ := exec_arith (List.length_pos_iff.mpr hne) hroom hfile h5
  simp only [execAccepts, execAcceptsL, Bool.and_eq_true, decide_eq_true_eq, List.all_eq_true,
    strCostL_map_length, List.length_map]
  refine ⟨⟨fun l hl => ?_, g1⟩, g2⟩
  simp only [List.map_map, List.mem_append, List.mem_map] at hl
  rcases hl with ⟨a, ha, rfl⟩ | ⟨e, he, rfl⟩
  · have := h3 a ha; rw [hmax] at this; simpa [cost] using this
  · simpa using henv e he

/-! ### replace mode at the level of the whole run: the re-check of the substituted command -/

/-- the limiter configuration `xargsMain` wires -/
def mainLim (opts : List Opt) (sys : Nat) : Limits :=
  ⟨(normalize opts).n, (normalize opts).l, sOptOf opts, sys, 8, 131072⟩

/-- `xargsMain` once the command line is accepted and the command fits, leaving `init` -/
def mainRun (opts : List Opt) (cmd : List (List UInt8)) (input : List UInt8)
    (script : List Outcome) (sys : Nat) (init : LState) : MainResult :=
  let nz := normalize opts
  let cfg : Config :=
    { lim := mainLim opts sys, x := opts.any (· == .x),
      r := opts.any (· == .r) || nz.replace.isSome, replace := nz.replace }
  let run := processInput cfg init (readInput nz.delim input).2 ⟨init, []⟩ false false [] script
    (readInput nz.delim input).1
  match nz.replace, run.batches.findIdx? (fun b => !substFits (mainLim opts sys) cmd nz.replace b) with
  | some _, some k => ⟨1, (run.batches.take k).map (argvOf cmd nz.replace)⟩
  | _, _ => ⟨run.status, run.batches.map (argvOf cmd nz.replace)⟩

theorem xargsMain_eq (opts : List Opt) (cmd : List (List UInt8)) (input : List UInt8)
    (script : List Outcome) (sys : Nat) :
    xargsMain opts cmd input script sys =
      if cmd.any (fun w => !FuModel.Utf8.validUtf8 w) || dupOpts opts ||
          opts.any (fun | .n 0 => true | .l 0 => true | .s 0 => true | _ => false) then ⟨1, []⟩
      else match initState (mainLim opts sys) LState.zero cmd with
        | none => ⟨1, []⟩
        | some init => mainRun opts cmd input script sys init := by
  unfold xargsMain
  cases cmd.any (fun w => !FuModel.Utf8.validUtf8 w)
  · cases dupOpts opts
    · cases opts.any (fun | .n 0 => true | .l 0 => true | .s 0 => true | _ => false) <;> rfl
    · rfl
  · rfl

/-- In replace mode every command `xargs_main` starts has passed the limiter chain afresh after
    substitution (`execute`'s re-check, `substFits`) - the run is cut before the first one that
    does not - under limits with the system budget, pointer charge and per-argument cap of
    `new_system`. -/
theorem main_replace_fits (opts : List Opt) (cmd : List (List UInt8)) (input : List UInt8)
    (script : List Outcome) (sys : Nat) (R : List UInt8) (hR : (normalize opts).replace = some R) :
    ∃ lim : Limits, lim.sys = sys ∧ lim.ptr = 8 ∧ lim.maxArg = 131072 ∧ lim.s = sOptOf opts ∧
      ∀ av ∈ (xargsMain opts cmd input script sys).argvs,
        ∃ b, av = argvOf cmd (some R) b ∧ substFits lim cmd (some R) b = true := by
  refine ⟨mainLim opts sys, rfl, rfl, rfl, rfl, ?_⟩
  rw [xargsMain_eq]
  split
  · simp
  · split
    · simp
    · rename_i init hinit
      simp only [mainRun, hR]
      generalize processInput _ init _ ⟨init, []⟩ false false [] script _ = run
      generalize hfi : List.findIdx? _ run.batches = fi
      intro av hav
      cases fi with
      | none =>
        obtain ⟨b, hb, rfl⟩ := List.mem_map.mp hav
        exact ⟨b, rfl, by simpa using List.findIdx?_eq_none_iff.mp hfi b hb⟩
      | some k =>
        obtain ⟨b, hb, rfl⟩ := List.mem_map.mp hav
        obtain ⟨i, hi, rfl⟩ := List.mem_iff_getElem.mp hb
        rw [List.length_take] at hi
        have := (List.findIdx?_eq_some_iff_getElem.mp hfi).2.2 i
          (Nat.lt_of_lt_of_le hi (Nat.min_le_left _ _))
        exact ⟨_, rfl, by simpa using this⟩

end FuModel.Xargs
