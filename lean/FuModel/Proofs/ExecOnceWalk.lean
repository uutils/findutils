import FuModel.Proofs.RunLift

/-!
# `-exec … ;` over a whole starting point (C09)

For an arbitrary expression whose only command-running primary is one `-exec`/`-execdir CMD ARGS ;`
the commands started during the walk of a starting point are what had been started before followed
by a subsequence, in visit order, of "the command of this entry" over the entries of the starting
point: at most one run per entry, each with the argument vector and the working directory of that
entry, none for an entry that is not visited, none reordered.  For `EXPR -exec CMD ARGS ;` with
`EXPR` made of tests it is exactly one run per entry on which `EXPR` is true.
-/
namespace FuModel.Find.Run
open FuModel.Find.Walk FuModel.Find.Expr

section once
variable (dir : Bool) (cmd : Bytes) (tmpl : List Bytes) (start : Bytes)

/-- the expression's only command-running primary is the `;` action under study -/
def SoleOnce (p : Prim) : Prop := quiet p = true ∨ p = .exec dir true cmd tmpl

theorem sem_exec_execs (v : Visit Attr) (s : ES) :
    (sem start v (.exec dir true cmd tmpl) s).2.gs.execs = s.gs.execs ++ [eventOf dir cmd tmpl start v] := by
  rw [sem_exec_eq]; rfl

theorem multis_once (m : M Prim) (hall : m.AllP (SoleOnce dir cmd tmpl)) : M.multis m = [] :=
  multis_nil hall fun _ hp => hp.elim multiOf_quiet fun h => h ▸ rfl

theorem multis_once_go (ms : List (M Prim)) (hall : M.AllP.AllPs (SoleOnce dir cmd tmpl) ms) : M.multis.go ms = [] :=
  multis_once dir cmd tmpl (.and ms) hall

theorem book_execs {m : M Prim} (hm : M.multis m = []) : Book m (fun _ => True) GS.execs :=
  .of_nil hm fun _ _ _ => ⟨trivial, rfl⟩

/-- what one entry contributes to the list of started commands -/
def ranBy (t : Prim) (v : Visit Attr) : List ExecEvent :=
  if (sem start v t es0).1 then [eventOf dir cmd tmpl start v] else []

/-- **`find START EXPR -exec CMD ARGS ;` (or `-execdir`), exactly**: over the real walk of a
    starting point the commands started are those started before followed by exactly one command
    per in-range reachable entry on which the tests `EXPR` are true — in visit order, each with
    that entry's substituted argument vector and working directory — whatever the commands return. -/
theorem whole_walk_once_exactM (mt : M Prim) (ht : TestsOnly mt) (c : Config) (root : Node Attr) (g : GS) :
    (processDir c (.and [mt, .prim (.exec dir true cmd tmpl)]) start (some root) g).gs.execs =
      g.execs ++ (visitsN (refCfg c) [] 0 (if c.sorted then sortNode root else root)).flatMap
        fun v => if truthM start v mt then [eventOf dir cmd tmpl start v] else [] :=
  (processDir_guarded c start root (fun _ => True) GS.execs mt ht _ rfl _
    (book_execs (by rw [multis_guarded ht]; rfl))
    (fun v s _ => ⟨trivial, rfl, sem_exec_execs dir cmd tmpl start v s⟩) g trivial).2.1

end once
end FuModel.Find.Run
