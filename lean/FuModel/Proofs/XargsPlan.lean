import FuModel.Xargs.BatchSpec
/-
`processInput` does two things that do not depend on each other: it decides where
the input is cut into commands (`plan`: the limiter chain, `-x`, `-r`, the reader
error; no child is looked at), and it runs the commands in order until one is fatal
(`exec`: the script, the failure flag; no limiter is looked at).
`processInput_eq_exec` separates the two; after it the batching theorems (C04, C06,
C20) are about `plan` and the status theorems (C19) about `exec`.
-/
namespace FuModel.Xargs

/-- `classify` in the vocabulary of the specification -/
theorem classify_eq (o : Outcome) :
    classify o = if o.isFatal then .fatal o.fatalStatus
      else if o.isFailure then .failure else .success := by
  cases o with
  | exit c =>
    by_cases h0 : c = 0
    · subst h0; rfl
    · by_cases h255 : c = 255
      · subst h255; rfl
      · simp [classify, Outcome.isFatal, Outcome.isFailure]
  | _ => rfl

theorem eq_exit_zero_of_not_fatal_not_failure {o : Outcome}
    (h1 : o.isFatal = false) (h2 : o.isFailure = false) : o = .exit 0 := by
  cases o with
  | exit c =>
    by_cases h0 : c = 0
    · rw [h0]
    · by_cases h255 : c = 255
      · subst h255; cases h1
      · simp [Outcome.isFailure] at h2
  | _ => cases h1

theorem fatalStatus_ge (o : Outcome) : 124 ≤ o.fatalStatus := by
  cases o <;> simp [Outcome.fatalStatus]

/-- The commands `processInput` would start if no child were fatal, in order, and whether
    the input ends with an error of xargs' own (status 1) instead of normally. -/
def plan (cfg : Config) (init : LState) (rdErr : Bool) :
    Builder → Bool → List Arg → List (List Arg) × Bool
  | cur, pend, [] =>
    if rdErr then ([], true) else (if !cfg.r || pend then [cur.extra] else [], false)
  | cur, pend, a :: as =>
    match tryArg cfg.lim cur.st a with
    | .ok st' => plan cfg init rdErr ⟨st', cur.extra ++ [a]⟩ true as
    | .error ooc =>
      if ooc && cfg.x && (cfg.lim.n.isSome || cfg.lim.l.isSome) then ([], true)
      else
        let rest := match tryArg cfg.lim init a with
          | .ok st' => plan cfg init rdErr ⟨st', [a]⟩ true as
          | .error _ => ([], true)
        (if pend then cur.extra :: rest.1 else rest.1, rest.2)

/-- Run the planned commands `bs` against the script; `err` is the plan's error flag. -/
def exec (err : Bool) : Bool → List (List Arg) → List Outcome → List (List Arg) → Run
  | failed, log, _, [] => ⟨log, if err then 1 else if failed then 123 else 0⟩
  | failed, log, script, b :: bs =>
    let o := (nextOutcome script).1
    if o.isFatal then ⟨log ++ [b], o.fatalStatus⟩
    else exec err (failed || o.isFailure) (log ++ [b]) (nextOutcome script).2 bs

theorem processInput_eq_exec (cfg : Config) (init : LState) (rdErr : Bool) (args : List Arg) :
    ∀ (cur : Builder) (pend failed : Bool) (log : List (List Arg)) (script : List Outcome),
      processInput cfg init rdErr cur pend failed log script args =
        exec (plan cfg init rdErr cur pend args).2 failed log script
          (plan cfg init rdErr cur pend args).1 := by
  induction args with
  | nil =>
    intro cur pend failed log script
    simp only [processInput, plan, classify_eq]
    cases rdErr
    · cases (!cfg.r || pend)
      · rfl
      · cases hf : (nextOutcome script).1.isFatal
        · cases hl : (nextOutcome script).1.isFailure <;> simp [exec, hf, hl]
        · simp [exec, hf]
    · rfl
  | cons a as ih =>
    intro cur pend failed log script
    simp only [processInput, plan, classify_eq]
    cases tryArg cfg.lim cur.st a with
    | ok st' => exact ih ..
    | error ooc =>
      simp only []
      cases ooc && cfg.x && (cfg.lim.n.isSome || cfg.lim.l.isSome)
      · cases pend
        · cases tryArg cfg.lim init a <;> simp [exec, ih]
        · cases hf : (nextOutcome script).1.isFatal
          · cases hl : (nextOutcome script).1.isFailure <;> cases tryArg cfg.lim init a <;>
              simp [exec, ih, hf, hl]
          · simp [exec, hf]
      · rfl

/-! ### `exec`: what is started is a prefix of the plan, cut after the first fatal outcome -/

theorem nextOutcome_not_fatal {script : List Outcome} (hnf : ∀ o ∈ script, o.isFatal = false) :
    (nextOutcome script).1.isFatal = false ∧ ∀ o ∈ (nextOutcome script).2, o.isFatal = false := by
  cases script with
  | nil => simp [nextOutcome, Outcome.isFatal]
  | cons o os => exact ⟨hnf o (by simp), fun o' ho' => hnf o' (by simp [nextOutcome] at ho'; simp [ho'])⟩

/-- without a fatal outcome everything planned is started -/
theorem exec_batches_of_no_fatal (err : Bool) (bs : List (List Arg)) :
    ∀ (failed : Bool) (log : List (List Arg)) (script : List Outcome),
      (∀ o ∈ script, o.isFatal = false) →
      (exec err failed log script bs).batches = log ++ bs := by
  induction bs with
  | nil => intros; simp [exec]
  | cons b bs ih =>
    intro failed log script hnf
    obtain ⟨h1, h2⟩ := nextOutcome_not_fatal hnf
    simp [exec, h1, ih _ _ _ h2]

/-- the started commands are a prefix of the plan; a run that ends with one of xargs'
    own statuses has started all of it, and status 1 then tells the plan's error flag -/
theorem exec_prefix (err : Bool) (bs : List (List Arg)) :
    ∀ (failed : Bool) (log : List (List Arg)) (script : List Outcome),
      ∃ k, (exec err failed log script bs).batches = log ++ bs.take k ∧
        ((exec err failed log script bs).status = 0 ∨ (exec err failed log script bs).status = 123 →
          bs.take k = bs ∧ err = false) ∧
        ((exec err failed log script bs).status = 1 → bs.take k = bs ∧ err = true) := by
  induction bs with
  | nil =>
    intro failed log script
    refine ⟨0, by simp [exec], ?_⟩
    cases err <;> cases failed <;> simp [exec]
  | cons b bs ih =>
    intro failed log script
    simp only [exec]
    split
    · have := fatalStatus_ge (nextOutcome script).1
      exact ⟨1, by simp, fun hs => by simp only at hs; omega, fun hs => by simp only at hs; omega⟩
    · obtain ⟨k, hk, hs⟩ := ih (failed || (nextOutcome script).1.isFailure) (log ++ [b])
        (nextOutcome script).2
      exact ⟨k + 1, by simp [hk], by simpa using hs⟩

end FuModel.Xargs
