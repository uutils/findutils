import FuModel.Proofs.XargsRead

/-!
Generative specification of the default-mode tokenizer: an input that is a
sequence of (quoted) words separated by blanks tokenizes to the words' values.
-/
namespace FuModel.Xargs

inductive Piece where
  | plain (c : UInt8)
  | esc (c : UInt8)
  | sq (body : List UInt8)
  | dq (body : List UInt8)

def Piece.ok : Piece → Prop
  | .plain c => isWs c = false ∧ isQuoteByte c = false ∧ c ≠ 92
  | .esc _ => True
  | .sq b => 39 ∉ b
  | .dq b => 34 ∉ b

def Piece.render : Piece → List UInt8
  | .plain c => [c]
  | .esc c => [92, c]
  | .sq b => 39 :: (b ++ [39])
  | .dq b => 34 :: (b ++ [34])

def Piece.value : Piece → List UInt8
  | .plain c => [c]
  | .esc c => [c]
  | .sq b => b
  | .dq b => b

def renderWord (w : List Piece) : List UInt8 := w.flatMap Piece.render
def valueWord (w : List Piece) : List UInt8 := w.flatMap Piece.value

def allWs (s : List UInt8) : Prop := ∀ c ∈ s, isWs c = true

/-- a word followed by its (non-empty, all-blank) separator -/
structure Item where
  word : List Piece
  sep : List UInt8

def Item.ok (it : Item) : Prop :=
  (∀ p ∈ it.word, p.ok) ∧ allWs it.sep ∧ it.sep ≠ []

def renderItems (items : List Item) : List UInt8 :=
  items.flatMap (fun it => renderWord it.word ++ it.sep)

/-- the arguments a list of items denotes: the value of every word whose value
    is non-empty, hard-terminated iff the first separator byte is a newline -/
def expected (items : List Item) : List (List UInt8 × Bool) :=
  items.filterMap (fun it =>
    if valueWord it.word = [] then none else some (valueWord it.word, it.sep.head? == some 10))

/-- `xs` delivered before whatever `r` delivers -/
def ReadAll.prepend (xs : List (List UInt8 × Bool)) : ReadAll → ReadAll
  | .ok ys => .ok (xs ++ ys)
  | .err ys => .err (xs ++ ys)

theorem prepend_nil (r : ReadAll) : ReadAll.prepend [] r = r := by
  cases r <;> rfl

theorem prepend_cons (x : List UInt8 × Bool) (xs : List (List UInt8 × Bool)) (r : ReadAll) :
    ReadAll.prepend (x :: xs) r = (ReadAll.prepend xs r).cons x := by
  cases r <;> rfl

theorem prepend_append (xs ys : List (List UInt8 × Bool)) (r : ReadAll) :
    ReadAll.prepend (xs ++ ys) r = ReadAll.prepend xs (ReadAll.prepend ys r) := by
  cases r <;> simp [ReadAll.prepend]

/-- a byte that does not occur in `c :: cs` differs from `c` -/
theorem beq_false_of_not_mem {q c : UInt8} {cs : List UInt8} (h : q ∉ c :: cs) :
    (c == q) = false ∧ q ∉ cs := by
  simp only [List.mem_cons, not_or] at h
  exact ⟨by simpa [beq_eq_false_iff_ne] using fun e => h.1 e.symm, h.2⟩

theorem isWs_not_special {c : UInt8} (h : isWs c = true) :
    isQuoteByte c = false ∧ (c == 92) = false := by
  simp only [isWs, Bool.or_eq_true, beq_iff_eq] at h
  rcases h with (((h | h) | h) | h) | h <;> subst h <;> decide

/-- inside quotes everything but the quote itself is taken literally -/
theorem tok_quote_body (q : UInt8) (r b rest : List UInt8) (hq : q ∉ b) :
    tokFrom ⟨.quote q, r⟩ (b ++ rest) = tokFrom ⟨.quote q, r ++ b⟩ rest := by
  induction b generalizing r with
  | nil => simp
  | cons c cs ih =>
    obtain ⟨hc, hq'⟩ := beq_false_of_not_mem hq
    simp only [List.cons_append, tokFrom, stepByte, hc]
    simpa using ih (r ++ [c]) hq'

/-- a quoted stretch: the quotes go, the body stays -/
theorem tok_quoted {q : UInt8} (hq : isQuoteByte q = true) (r b rest : List UInt8) (hb : q ∉ b) :
    tokFrom ⟨.none, r⟩ (q :: (b ++ q :: rest)) = tokFrom ⟨.none, r ++ b⟩ rest := by
  simp [tokFrom, stepByte, hq, tok_quote_body q r b _ hb]

theorem tok_unterminated (q : UInt8) (body : List UInt8) (hb : q ∉ body) (r : List UInt8) :
    tokFrom ⟨.quote q, r⟩ body = .err [] := by
  have := tok_quote_body q r body [] hb
  rwa [List.append_nil] at this

theorem tok_piece (p : Piece) (hp : p.ok) (r rest : List UInt8) :
    tokFrom ⟨.none, r⟩ (p.render ++ rest) = tokFrom ⟨.none, r ++ p.value⟩ rest := by
  cases p with
  | plain c =>
    obtain ⟨h1, h2, h3⟩ := hp
    have h3' : (c == 92) = false := by simpa [beq_eq_false_iff_ne] using h3
    simp [Piece.render, Piece.value, tokFrom, stepByte, h1, h2, h3']
  | esc c =>
    simp [Piece.render, Piece.value, tokFrom, stepByte, isQuoteByte]
  | sq b => simpa [Piece.render, Piece.value] using tok_quoted (q := 39) (by decide) r b rest hp
  | dq b => simpa [Piece.render, Piece.value] using tok_quoted (q := 34) (by decide) r b rest hp

theorem tok_word (w : List Piece) (hw : ∀ p ∈ w, p.ok) (r rest : List UInt8) :
    tokFrom ⟨.none, r⟩ (renderWord w ++ rest) = tokFrom ⟨.none, r ++ valueWord w⟩ rest := by
  induction w generalizing r with
  | nil => simp [renderWord, valueWord]
  | cons p ps ih =>
    have hp := hw p (List.mem_cons_self)
    have hps : ∀ p ∈ ps, p.ok := fun p h => hw p (List.mem_cons_of_mem _ h)
    simp only [renderWord, valueWord, List.flatMap_cons, List.append_assoc] at *
    rw [tok_piece p hp, ih hps]
    simp

/-- a blank outside quotes ends the word collected so far, if any -/
theorem tok_blank (r : List UInt8) {c : UInt8} (hc : isWs c = true) (rest : List UInt8) :
    tokFrom ⟨.none, r⟩ (c :: rest) =
      if r = [] then tokFrom RS.init rest else (tokFrom RS.init rest).cons (r, c == 10) := by
  obtain ⟨h1, h2⟩ := isWs_not_special hc
  cases r <;> simp [tokFrom, stepByte, h1, h2, hc, RS.init]

theorem tok_skip_ws (s rest : List UInt8) (hs : allWs s) :
    tokFrom RS.init (s ++ rest) = tokFrom RS.init rest := by
  induction s with
  | nil => rfl
  | cons c cs ih =>
    exact (tok_blank [] (hs c List.mem_cons_self) _).trans
      (ih fun x hx => hs x (List.mem_cons_of_mem _ hx))

theorem tok_item (it : Item) (hit : it.ok) (rest : List UInt8) :
    tokFrom RS.init (renderWord it.word ++ it.sep ++ rest) =
      ReadAll.prepend (expected [it]) (tokFrom RS.init rest) := by
  obtain ⟨hw, hs, hne⟩ := hit
  have : tokFrom RS.init (renderWord it.word ++ (it.sep ++ rest)) =
      tokFrom ⟨.none, valueWord it.word⟩ (it.sep ++ rest) := tok_word it.word hw [] _
  rw [List.append_assoc, this]
  cases hsep : it.sep with
  | nil => exact absurd hsep hne
  | cons c more =>
    rw [hsep] at hs
    rw [List.cons_append, tok_blank _ (hs c List.mem_cons_self),
      tok_skip_ws more rest fun x hx => hs x (List.mem_cons_of_mem _ hx)]
    by_cases hv : valueWord it.word = [] <;> simp [expected, hv, hsep, prepend_nil, prepend_cons]

theorem expected_cons (it : Item) (items : List Item) :
    expected (it :: items) = expected [it] ++ expected items :=
  List.filterMap_append (l := [it]) ..

theorem tok_items (items : List Item) (h : ∀ it ∈ items, it.ok) (rest : List UInt8) :
    tokFrom RS.init (renderItems items ++ rest) =
      ReadAll.prepend (expected items) (tokFrom RS.init rest) := by
  induction items with
  | nil => simp [renderItems, expected, prepend_nil]
  | cons it its ih =>
    have hit := h it (List.mem_cons_self)
    have hits : ∀ it ∈ its, it.ok := fun x hx => h x (List.mem_cons_of_mem _ hx)
    have e : renderItems (it :: its) ++ rest
        = renderWord it.word ++ it.sep ++ (renderItems its ++ rest) := by
      simp [renderItems, List.flatMap_cons, List.append_assoc]
    rw [e, tok_item it hit, ih hits, expected_cons it its, prepend_append]

theorem stepByte_done {s : RS} {c : UInt8} {tok : List UInt8} {hard : Bool}
    (h : stepByte s c = .done tok hard) : tok = s.res ∧ s.res ≠ [] ∧ hard = (c == 10) := by
  rcases s with ⟨esc, r⟩
  cases esc with
  | none =>
    -- the tests of the unquoted state in their order; only the last branch delivers
    simp only [stepByte] at h
    cases h1 : isQuoteByte c
    case true => simp [h1] at h
    cases h2 : c == 92
    case true => simp [h1, h2] at h
    cases h3 : isWs c
    case false => simp [h1, h2, h3] at h
    cases h4 : r.isEmpty
    case true => simp [h1, h2, h3, h4] at h
    simp [h1, h2, h3, h4] at h
    simp_all
  | slash => cases h
  | quote q => cases h1 : c == q <;> simp [stepByte, h1] at h

/-- every argument the tokenizer produces is non-empty -/
theorem tokFrom_nonempty (s : RS) (inp : List UInt8) : ∀ x ∈ (tokFrom s inp).args, x.1 ≠ [] := by
  induction inp generalizing s with
  | nil =>
    simp only [tokFrom]
    split
    · simp [ReadAll.args]
    · split <;> simp_all [ReadAll.args]
  | cons c cs ih =>
    simp only [tokFrom]
    cases hstep : stepByte s c with
    | cont s' => exact ih s'
    | done tok hard =>
      obtain ⟨rfl, hne, _⟩ := stepByte_done hstep
      intro x hx
      rcases List.mem_cons.1 (ReadAll.args_cons .. ▸ hx) with rfl | hx
      · exact hne
      · exact ih RS.init x hx

/-! ### the byte-delimited reader -/

theorem bdFrom_seg (d : UInt8) (cur seg rest : List UInt8) (h : d ∉ seg) :
    bdFrom d cur (seg ++ rest) = bdFrom d (cur ++ seg) rest := by
  induction seg generalizing cur with
  | nil => simp
  | cons c cs ih =>
    obtain ⟨hc, hcs⟩ := beq_false_of_not_mem h
    simp only [List.cons_append, bdFrom, hc]
    simpa using ih (cur ++ [c]) hcs

theorem bdFrom_delim (d : UInt8) (cur rest : List UInt8) :
    bdFrom d cur (d :: rest) = (if cur = [] then [] else [cur]) ++ bdFrom d [] rest := by
  simp only [bdFrom, beq_self_eq_true, if_true]
  cases cur <;> simp

end FuModel.Xargs
