import FuModel.Proofs.XargsPlan
/-
Helper lemmas for C19: the exit status of `processInput` as a function of the
outcomes of the commands it started.
-/
namespace FuModel.Xargs

/-! ### `startedOutcomes` -/

@[simp] theorem startedOutcomes_zero (script : List Outcome) : startedOutcomes script 0 = [] := by
  simp [startedOutcomes]

theorem startedOutcomes_succ (script : List Outcome) (k : Nat) :
    startedOutcomes script (k + 1)
      = (nextOutcome script).1 :: startedOutcomes (nextOutcome script).2 k := by
  cases script with
  | nil => simp [startedOutcomes, nextOutcome, List.replicate_succ]
  | cons o os =>
    simp only [startedOutcomes, nextOutcome, List.cons_append, List.take_succ_cons,
      List.replicate_succ', ← List.append_assoc]
    rw [List.take_append_of_le_length (by simp)]

theorem mem_startedOutcomes {script : List Outcome} {k : Nat} {o : Outcome}
    (h : o ∈ startedOutcomes script k) : o ∈ script ∨ o = .exit 0 := by
  have := List.mem_of_mem_take h
  simp only [List.mem_append, List.mem_replicate] at this
  rcases this with h | h
  · exact Or.inl h
  · exact Or.inr h.2

/-! ### the invariant relating status and started outcomes -/

/-- `s` is a correct status for a (sub)run that started `k` commands on `script`,
    entered with the failure flag `failed` and reader flag `rdErr`. -/
structure StatusInv (rdErr failed : Bool) (script : List Outcome) (k s : Nat) : Prop where
  stops : ∀ i o, (startedOutcomes script k)[i]? = some o → o.isFatal = true → i + 1 = k
  fatal : ∀ o, (startedOutcomes script k).find? (fun o => o.isFatal) = some o → s = o.fatalStatus
  plain : (startedOutcomes script k).find? (fun o => o.isFatal) = none →
    s = 1 ∨ s = (if failed || (startedOutcomes script k).any (fun o => o.isFailure) then 123 else 0)
  reader : rdErr = true → (∀ o ∈ startedOutcomes script k, o.isFatal = false) → s = 1

theorem StatusInv.zero (rdErr failed : Bool) (script : List Outcome) :
    StatusInv rdErr failed script 0 (if rdErr then 1 else if failed then 123 else 0) :=
  ⟨by simp, by simp, fun _ => by cases rdErr <;> simp, fun h _ => by simp [h]⟩

theorem StatusInv.one_fatal {rdErr failed : Bool} {script : List Outcome}
    (h1 : (nextOutcome script).1.isFatal = true) :
    StatusInv rdErr failed script 1 (nextOutcome script).1.fatalStatus := by
  have hs : startedOutcomes script 1 = [(nextOutcome script).1] := by
    rw [startedOutcomes_succ, startedOutcomes_zero]
  refine ⟨fun i o => ?_, by simp [hs, h1], by simp [hs, h1], by simp [hs, h1]⟩
  cases i <;> simp [hs]

theorem StatusInv.cons {rdErr failed : Bool} {script : List Outcome} {k s : Nat}
    (hnf : (nextOutcome script).1.isFatal = false)
    (h : StatusInv rdErr (failed || (nextOutcome script).1.isFailure) (nextOutcome script).2 k s) :
    StatusInv rdErr failed script (k + 1) s := by
  constructor
  · intro i o
    rw [startedOutcomes_succ]
    cases i with
    | zero => simp only [List.getElem?_cons_zero, Option.some.injEq]; intro ho; subst ho; simp [hnf]
    | succ i =>
      simp only [List.getElem?_cons_succ]
      intro ho hf
      have := h.stops i o ho hf
      omega
  · intro o
    rw [startedOutcomes_succ]
    simp only [List.find?_cons, hnf]
    exact h.fatal o
  · rw [startedOutcomes_succ]
    simp only [List.find?_cons, hnf, List.any_cons, ← Bool.or_assoc]
    exact h.plain
  · rw [startedOutcomes_succ]
    intro hr hall
    exact h.reader hr (fun o ho => hall o (by simp [ho]))

/-- `exec` starts `k` of the planned commands, and its status is correct for the first `k`
    outcomes of `script`. -/
theorem exec_inv (err : Bool) (bs : List (List Arg)) :
    ∀ (failed : Bool) (log : List (List Arg)) (script : List Outcome),
      ∃ k, (exec err failed log script bs).batches.length = log.length + k ∧
        StatusInv err failed script k (exec err failed log script bs).status := by
  induction bs with
  | nil =>
    intro failed log script
    exact ⟨0, rfl, StatusInv.zero _ _ _⟩
  | cons b bs ih =>
    intro failed log script
    simp only [exec]
    split
    · rename_i h
      exact ⟨1, by simp, StatusInv.one_fatal h⟩
    · rename_i h
      obtain ⟨k, hk, hinv⟩ := ih (failed || (nextOutcome script).1.isFailure) (log ++ [b])
        (nextOutcome script).2
      exact ⟨k + 1, by simp [hk]; omega, StatusInv.cons (by simpa using h) hinv⟩

theorem plan_err_of_rdErr (cfg : Config) (init : LState) (as : List Arg) :
    ∀ (cur : Builder) (pend : Bool), (plan cfg init true cur pend as).2 = true := by
  induction as with
  | nil => intros; rfl
  | cons a as ih =>
    intro cur pend
    simp only [plan]
    cases tryArg cfg.lim cur.st a with
    | ok st' => exact ih ..
    | error ooc =>
      simp only []
      cases ooc && cfg.x && (cfg.lim.n.isSome || cfg.lim.l.isSome)
      · cases tryArg cfg.lim init a <;> simp [ih]
      · rfl

/-- the status of a whole run is correct for the outcomes of the commands it started -/
theorem run_statusInv (cfg : Config) (init : LState) (rdErr : Bool) (script : List Outcome)
    (args : List Arg) :
    StatusInv (plan cfg init rdErr ⟨init, []⟩ false args).2 false script
      (processInput cfg init rdErr ⟨init, []⟩ false false [] script args).batches.length
      (processInput cfg init rdErr ⟨init, []⟩ false false [] script args).status := by
  rw [processInput_eq_exec]
  obtain ⟨k, hk, hinv⟩ := exec_inv (plan cfg init rdErr ⟨init, []⟩ false args).2
    (plan cfg init rdErr ⟨init, []⟩ false args).1 false [] script
  rw [hk]
  simpa using hinv

theorem not_fatal_of_mem_startedOutcomes {script : List Outcome} {k : Nat}
    (hnf : ∀ o ∈ script, o.isFatal = false) : ∀ o ∈ startedOutcomes script k, o.isFatal = false := by
  intro o ho
  rcases mem_startedOutcomes ho with h | rfl
  · exact hnf o h
  · rfl

/-! ### data for the examples of `Props/C19.lean` -/

/-- `-n 2`, generous size limits, neither `-x` nor `-r` -/
def exCfg : Config := ⟨⟨some 2, none, none, 1000, 8, 131072⟩, false, false, none⟩
def exArg (b : UInt8) : Arg := ⟨[b], .soft⟩
def exArgs : List Arg := [exArg 97, exArg 98, exArg 99, exArg 100, exArg 101]

end FuModel.Xargs
