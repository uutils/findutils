import FuModel.Proofs.RunLift

/-!
# `find S1 S2 … EXPR ACTION` for the output actions, end to end (C07, C16, C18 with C02/C03)

`ACTION` is one of the actions that only write: `-print`, `-print0` (`.pathOut`), a literal
`-printf` text (`.lit`) or a `-printf` format (`.printf`); `EXPR` any expression made of tests.
Over the real walk (walkdir's iterator under `process_dir`, then `do_find`'s loop over the starting
points) the bytes written are exactly, in command-line order of the starting points and in visit
order inside each, what the action writes for the in-range reachable entries on which the
expression is true.  The forms for a single test `t` are the case `EXPR = .prim t`.
-/
namespace FuModel.Find.Run
open FuModel.Find.Walk FuModel.Find.Expr

/-- what one entry contributes to the output of `EXPR ACTION` -/
def writtenM (start : Bytes) (mt : M Prim) (a : Prim) (v : Visit Attr) : Bytes :=
  if truthM start v mt then (outOf start v a).getD [] else []

/-- what one entry contributes to the output -/
def written (start : Bytes) (t a : Prim) (v : Visit Attr) : Bytes :=
  if (sem start v t es0).1 then (outOf start v a).getD [] else []

theorem written_eq (start : Bytes) (t a : Prim) : written start t a = writtenM start (.prim t) a := by
  rfl

theorem book_out (mt : M Prim) (ht : TestsOnly mt) (a : Prim) (ha : isOutP a = true) :
    Book (.and [mt, .prim a]) (fun _ => True) GS.out :=
  .of_nil (by rw [multis_guarded ht, multiOf_quiet (quiet_of_out ha)]) fun _ _ _ => ⟨trivial, rfl⟩

/-- one starting point -/
theorem processDir_outM (c : Config) (mt : M Prim) (ht : TestsOnly mt) (a : Prim) (ha : isOutP a = true)
    (start : Bytes) (root : Node Attr) (g : GS) :
    let n := if c.sorted then sortNode root else root
    let r := processDir c (.and [mt, .prim a]) start (some root) g
    r.gs.out = g.out ++ (visitsN (refCfg c) [] 0 n).flatMap (writtenM start mt a) ∧ r.quit = false :=
  (processDir_guarded c start root (fun _ => True) GS.out mt ht a (notPrune_of_out ha) (fun v => (outOf start v a).getD [])
    (book_out mt ht a ha) (fun v s _ => by simp [sem_outP start v a ha]) g trivial).2

/-- what one starting point contributes -/
def writtenRootM (c : Config) (mt : M Prim) (a : Prim) (x : Bytes × Option (Node Attr)) : Bytes :=
  match x.2 with
  | none => []
  | some r => (visitsN (refCfg c) [] 0 (if c.sorted then sortNode r else r)).flatMap (writtenM x.1 mt a)

def writtenRoot (c : Config) (t a : Prim) (x : Bytes × Option (Node Attr)) : Bytes :=
  match x.2 with
  | none => []
  | some r => (visitsN (refCfg c) [] 0 (if c.sorted then sortNode r else r)).flatMap (written x.1 t a)

/-- the status `do_find` goes on with after a starting point: its own if that is non-zero, else the one so far -/
theorem ret_ne_zero {a ret : Nat} (h : a ≠ 0 ∨ ret ≠ 0) : (if a != 0 then a else ret) ≠ 0 := by
  by_cases ha : a = 0
  · simpa [ha] using h
  · simp [ha]

/-- **All starting points, in the order given, isolated on error.** -/
theorem doFind_outM (c : Config) (mt : M Prim) (ht : TestsOnly mt) (a : Prim) (ha : isOutP a = true)
    (roots : List (Bytes × Option (Node Attr))) :
    ∀ (g : GS) (ret diags : Nat),
      let res := doFind c (.and [mt, .prim a]) roots g ret diags
      res.gs.out = g.out ++ roots.flatMap (writtenRootM c mt a) ∧
      ((ret ≠ 0 ∨ ∃ x ∈ roots, x.2 = none) → res.ret ≠ 0) := by
  induction roots with
  | nil => intro g ret diags; simp [doFind]
  | cons x xs ih =>
    intro g ret diags
    obtain ⟨start, root⟩ := x
    -- one starting point: its contribution, no quit, and status 1 if it cannot be examined
    have hx : (processDir c (.and [mt, .prim a]) start root g).gs.out = g.out ++ writtenRootM c mt a (start, root) ∧
        (processDir c (.and [mt, .prim a]) start root g).quit = false ∧
        (root = none → (processDir c (.and [mt, .prim a]) start root g).ret = 1) := by
      cases root with
      | none => exact ⟨by simpa [processDir, writtenRootM] using ((book_out mt ht a ha).finish _ trivial).2, rfl, fun _ => rfl⟩
      | some r => exact ⟨(processDir_outM c mt ht a ha start r g).1, (processDir_outM c mt ht a ha start r g).2, nofun⟩
    simp only [doFind, hx.2.1, Bool.false_eq_true, if_false]
    refine ⟨by rw [(ih _ _ _).1, hx.1, List.flatMap_cons, List.append_assoc], fun h => (ih _ _ _).2 ?_⟩
    rcases h with h | ⟨y, hy, hn⟩
    · exact .inl (ret_ne_zero (.inr h))
    · rcases List.mem_cons.mp hy with rfl | hy
      · exact .inl (ret_ne_zero (.inl (by rw [hx.2.2 hn]; decide)))
      · exact .inr ⟨y, hy, hn⟩

theorem writtenRoot_eq (c : Config) (t a : Prim) : writtenRoot c t a = writtenRootM c (.prim t) a := by
  funext x; simp only [writtenRoot, writtenRootM, written_eq]

/-! ### expressions of tests in the whole run -/

theorem multis_tests_go (ms : List (M Prim)) (h : M.AllP.AllPs (fun p => isTestP p = true) ms) : M.multis.go ms = [] :=
  multis_quiet (m := .and ms) (M.AllP.imp (m := .and ms) h fun _ => quiet_of_test)

theorem hasSE_tests (m : M Prim) (h : TestsOnly m) : m.hasSE Prim.isAction = false := by
  rw [hasSE_eq_any, List.any_eq_false]
  exact fun p hp => by simp [isAction_test ((allP_iff _ m).1 h p hp)]

theorem hasSEs_tests (ms : List (M Prim)) (h : M.AllP.AllPs (fun p => isTestP p = true) ms) :
    M.hasSE.hasSEs Prim.isAction ms = false :=
  hasSE_tests (.and ms) h

theorem foldl_tok (c : Config) (toks : List (Tok Prim)) : (toks.map Arg.tok).foldl applyArg c = c := by
  induction toks generalizing c with
  | nil => rfl
  | cons t ts ih => simpa [applyArg] using ih c

end FuModel.Find.Run
