import FuModel.Proofs.WalkRef

/-!
# "Exactly once" for the reference traversal (C02)

With an evaluator that only records the entry it is called on (never prunes, never quits), the
reference traversal appends the list `pathsN` — the in-range entries reachable under the follow
mode, in visit order — to the record.  Every element of that list extends the path of the node it
was produced for, and when the names inside every directory are pairwise distinct (as they are in
a file system) no path occurs twice: every in-range entry is evaluated exactly once.
-/
namespace FuModel.Find.Walk
variable {α : Type}

/-- the evaluator that records the relative path of the entry and nothing else -/
def logEv : Visit α → List (List Name) → EvalOut × List (List Name) :=
  fun v s => (⟨false, false, 0⟩, s ++ [v.ent.rpath])

def selfPath (c : RefCfg) (rpath : List Name) (depth : Nat) : List (List Name) :=
  if inRange c depth then [rpath] else []

mutual
def pathsN (c : RefCfg) (rpath : List Name) (depth : Nat) : Node α → List (List Name)
  | .leaf _ k _ => if k == .linkLoop && c.follows depth then [] else selfPath c rpath depth
  | .dir _ isLink readable _ kids =>
    let below :=
      if (!isLink || c.follows depth) && decide (depth < c.maxDepth) then
        (if readable then pathsK c rpath (depth + 1) kids else [])
      else []
    if c.depthFirst then below ++ selfPath c rpath depth else selfPath c rpath depth ++ below
def pathsK (c : RefCfg) (rpath : List Name) (depth : Nat) : List (Node α) → List (List Name)
  | [] => []
  | n :: ns => pathsN c (n.name :: rpath) depth n ++ pathsK c rpath depth ns
end

theorem selfVisit_path (c : RefCfg) (rp : List Name) (d : Nat) (n : Node α) :
    (selfVisit c rp d n).map (·.ent.rpath) = selfPath c rp d := by
  unfold selfVisit selfPath; split <;> simp [mkVisit_rpath]

mutual
/-- the paths of `visitsN` are `pathsN` (hence pairwise distinct, `pathsN_nodup`) -/
theorem visitsN_paths (c : RefCfg) (rp : List Name) (d : Nat) (n : Node α) :
    (visitsN c rp d n).map (·.ent.rpath) = pathsN c rp d n := by
  match n with
  | .leaf nm k a => simp only [visitsN, pathsN, apply_ite (List.map _), List.map_nil, selfVisit_path]
  | .dir nm l r a kids =>
    simp only [visitsN, pathsN, apply_ite (List.map _), List.map_append, List.map_nil, selfVisit_path,
      visitsK_paths c rp (d + 1) kids]
theorem visitsK_paths (c : RefCfg) (rp : List Name) (d : Nat) (kids : List (Node α)) :
    (visitsK c rp d kids).map (·.ent.rpath) = pathsK c rp d kids := by
  match kids with
  | [] => rfl
  | n :: ns => rw [visitsK, pathsK, List.map_append, visitsN_paths c (n.name :: rp) d n, visitsK_paths c rp d ns]
end

theorem logEv_exact (v : Visit α) (s : List (List Name)) :
    (logEv v s).1.prune = false ∧ (logEv v s).1.quit = false ∧ id (logEv v s).2 = id s ++ [v.ent.rpath] :=
  ⟨rfl, rfl, rfl⟩

theorem refNode_log (c : RefCfg) (rp : List Name) (d : Nat) (n : Node α) (A : Acc (List (List Name))) :
    (refNode c logEv rp d n A).1 = false ∧ (refNode c logEv rp d n A).2.st = A.st ++ pathsN c rp d n := by
  rw [← visitsN_paths, List.map_eq_flatMap]
  exact refNode_exact c logEv id _ logEv_exact rp d n A

theorem refKids_log (c : RefCfg) (rp : List Name) (d : Nat) (kids : List (Node α)) (A : Acc (List (List Name))) :
    (refKids c logEv rp d kids A).1 = false ∧ (refKids c logEv rp d kids A).2.st = A.st ++ pathsK c rp d kids := by
  rw [← visitsK_paths, List.map_eq_flatMap]
  exact refKids_exact c logEv id _ logEv_exact rp d kids A

/-! ### a node's paths, up to order: at most itself, and some of its listing's -/

theorem selfPath_sub (c : RefCfg) (rp : List Name) (d : Nat) : (selfPath c rp d).Sublist [rp] := by
  unfold selfPath; split <;> simp

theorem pathsN_leaf_sub (c : RefCfg) (rp : List Name) (d : Nat) (nm : Name) (k : LeafKind) (a : α) :
    (pathsN c rp d (.leaf nm k a)).Sublist [rp] := by
  rw [pathsN]
  cases k == .linkLoop && c.follows d
  · exact selfPath_sub c rp d
  · exact List.nil_sublist _

theorem below_sub {β : Type} (b1 b2 : Bool) (l : List β) : (if b1 then (if b2 then l else []) else []).Sublist l := by
  cases b1 <;> cases b2 <;> simp

theorem pathsN_dir_perm (c : RefCfg) (rp : List Name) (d : Nat) (nm : Name) (l r : Bool) (a : α) (kids : List (Node α)) :
    (pathsN c rp d (.dir nm l r a kids)).Perm (selfPath c rp d ++
      if (!l || c.follows d) && decide (d < c.maxDepth) then (if r then pathsK c rp (d + 1) kids else []) else []) := by
  rw [pathsN]
  cases c.depthFirst
  · exact .refl _
  · exact List.perm_append_comm

/-! ### every recorded path extends the path of the node it belongs to -/

mutual
theorem pathsN_suffix (c : RefCfg) (rp : List Name) (d : Nat) (n : Node α) :
    ∀ p ∈ pathsN c rp d n, ∃ e, p = e ++ rp := by
  match n with
  | .leaf nm k a => exact fun p hp => ⟨[], by simpa using (pathsN_leaf_sub c rp d nm k a).subset hp⟩
  | .dir nm l r a kids =>
    intro p hp
    rcases List.mem_append.mp ((pathsN_dir_perm c rp d nm l r a kids).mem_iff.mp hp) with h | h
    · exact ⟨[], by simpa using (selfPath_sub c rp d).subset h⟩
    · obtain ⟨e, k, _, he⟩ := pathsK_suffix c rp (d + 1) kids p ((below_sub _ _ _).subset h)
      exact ⟨e ++ [k.name], by rw [he]; simp⟩
theorem pathsK_suffix (c : RefCfg) (rp : List Name) (d : Nat) (kids : List (Node α)) :
    ∀ p ∈ pathsK c rp d kids, ∃ e k, k ∈ kids ∧ p = e ++ k.name :: rp := by
  match kids with
  | [] => exact nofun
  | n :: ns =>
    rw [pathsK]
    intro p hp
    rcases List.mem_append.mp hp with h | h
    · obtain ⟨e, he⟩ := pathsN_suffix c (n.name :: rp) d n p h
      exact ⟨e, n, by simp, he⟩
    · obtain ⟨e, k, hk, he⟩ := pathsK_suffix c rp d ns p h
      exact ⟨e, k, by simp [hk], he⟩
end

/-! ### no path twice -/

mutual
/-- the names inside every directory are pairwise distinct -/
def distinctN : Node α → Prop
  | .leaf _ _ _ => True
  | .dir _ _ _ _ kids => distinctK kids
def distinctK : List (Node α) → Prop
  | [] => True
  | n :: ns => distinctN n ∧ (∀ k ∈ ns, k.name ≠ n.name) ∧ distinctK ns
end

theorem append_cons_cancel {e1 e2 : List Name} {a b : Name} {rp : List Name}
    (h : e1 ++ a :: rp = e2 ++ b :: rp) : a = b := by
  have h' : (e1 ++ [a]) ++ rp = (e2 ++ [b]) ++ rp := by simpa using h
  have := List.append_cancel_right h'
  have hl := congrArg List.getLast? this
  simpa using hl

theorem length_lt_of_kid {e : List Name} {a : Name} {rp : List Name} : (e ++ a :: rp) ≠ rp := by
  intro h
  have := congrArg List.length h
  simp at this
  omega

mutual
theorem pathsN_nodup (c : RefCfg) (rp : List Name) (d : Nat) (n : Node α) (h : distinctN n) :
    (pathsN c rp d n).Nodup := by
  match n with
  | .leaf nm k a => exact (pathsN_leaf_sub c rp d nm k a).nodup (by simp)
  | .dir nm l r a kids =>
    refine (pathsN_dir_perm c rp d nm l r a kids).nodup_iff.mpr (List.nodup_append.mpr
      ⟨(selfPath_sub c rp d).nodup (by simp), (below_sub _ _ _).nodup (pathsK_nodup c rp (d + 1) kids h), ?_⟩)
    -- the directory's own path is shorter than any below it
    intro p hp q hq hpq
    obtain ⟨e, k, _, he⟩ := pathsK_suffix c rp (d + 1) kids q ((below_sub _ _ _).subset hq)
    rw [← hpq, show p = rp by simpa using (selfPath_sub c rp d).subset hp] at he
    exact length_lt_of_kid he.symm
theorem pathsK_nodup (c : RefCfg) (rp : List Name) (d : Nat) (kids : List (Node α)) (h : distinctK kids) :
    (pathsK c rp d kids).Nodup := by
  match kids with
  | [] => exact .nil
  | n :: ns =>
    rw [pathsK]
    obtain ⟨hn, hne, hns⟩ := h
    refine List.nodup_append.mpr ⟨pathsN_nodup c (n.name :: rp) d n hn, pathsK_nodup c rp d ns hns, ?_⟩
    intro a ha b hb hab
    obtain ⟨e1, he1⟩ := pathsN_suffix c (n.name :: rp) d n a ha
    obtain ⟨e2, k, hk, he2⟩ := pathsK_suffix c rp d ns b hb
    rw [hab, he2] at he1
    exact hne k hk (append_cons_cancel he1)
end

/-! ## the traversal order changes the order only

Two configurations that differ at most in `depthFirst` list the same entries, each as often -/

mutual
theorem pathsN_order_perm (c c' : RefCfg) (hmin : c'.minDepth = c.minDepth) (hmax : c'.maxDepth = c.maxDepth)
    (hf : c'.follow = c.follow) (rp : List Name) (d : Nat) (n : Node α) :
    (pathsN c' rp d n).Perm (pathsN c rp d n) := by
  have hfol : c'.follows d = c.follows d := by simp [RefCfg.follows, hf]
  have hself : selfPath c' rp d = selfPath c rp d := by simp [selfPath, inRange, hmin, hmax]
  match n with
  | .leaf nm k a => rw [pathsN, pathsN, hfol, hself]
  | .dir nm l r a kids =>
    refine (pathsN_dir_perm c' rp d nm l r a kids).trans (.trans ?_ (pathsN_dir_perm c rp d nm l r a kids).symm)
    rw [hfol, hself, hmax]
    refine .append_left _ ?_
    cases (!l || c.follows d) && decide (d < c.maxDepth)
    · exact .refl _
    · cases r
      · exact .refl _
      · exact pathsK_order_perm c c' hmin hmax hf rp (d + 1) kids
theorem pathsK_order_perm (c c' : RefCfg) (hmin : c'.minDepth = c.minDepth) (hmax : c'.maxDepth = c.maxDepth)
    (hf : c'.follow = c.follow) (rp : List Name) (d : Nat) (kids : List (Node α)) :
    (pathsK c' rp d kids).Perm (pathsK c rp d kids) := by
  match kids with
  | [] => exact .refl _
  | n :: ns =>
    rw [pathsK, pathsK]
    exact (pathsN_order_perm c c' hmin hmax hf (n.name :: rp) d n).append (pathsK_order_perm c c' hmin hmax hf rp d ns)
end

end FuModel.Find.Walk
