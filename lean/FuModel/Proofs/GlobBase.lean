import FuModel.Find.Glob
import FuModel.Spec.Fnmatch

/-!
# C12 — the tests -name, -path, -lname (and their -i forms) equal POSIX fnmatch on the whole string

Model: `Find/Glob.lean` (glob → items → regular expression text; Oniguruma's anchored
backtracking match `firstEnd`; `Pattern::matches` compares its length with the subject's).
Specification: `Spec/Fnmatch.lean`.

Here: the language of an item list (`denot`) and the basic readings of `*`, `?`, literals and a
lone trailing backslash.  That `Pattern::matches` decides exactly this language is in
`Proofs/GlobComplete.lean`; the translation of patterns against the fnmatch specification in
`Proofs/GlobBracket.lean`.  PARTIAL: the translation of bracket
expressions outside the plain class and of case folding is carried by the correspondence runs
(exhaustive over small alphabets, random from the grammar) with `Spec/Fnmatch.lean` as the
predicate; three deviations found that way are recorded as known findings.
-/
namespace FuModel.Find.Glob

/-- the language of an item list, denotationally: a star stands for any string -/
def denot (icase : Bool) : List Item → List Char → Bool
  | [], s => s.isEmpty
  | .star :: r, s => (List.range (s.length + 1)).any fun k => denot icase r (s.drop k)
  | it :: r, s =>
    match s with
    | [] => false
    | x :: xs => it.accepts icase x && denot icase r xs

/-- every item but `*` takes exactly one character: the matcher and the language on such an item -/
theorem firstEnd_one (icase : Bool) {it : Item} (hne : it ≠ .star) (r : List Item) (s : List Char) (pos : Nat) :
    firstEnd icase (it :: r) s pos =
      match s with
      | [] => none
      | x :: xs => if it.accepts icase x then firstEnd icase r xs (pos + 1) else none := by
  cases it with
  | star => exact absurd rfl hne
  | _ => cases s <;> rfl

theorem denot_one (icase : Bool) {it : Item} (hne : it ≠ .star) (r : List Item) (s : List Char) :
    denot icase (it :: r) s =
      match s with
      | [] => false
      | x :: xs => it.accepts icase x && denot icase r xs := by
  cases it with
  | star => exact absurd rfl hne
  | _ => cases s <;> rfl

/-- `?` accepts every character — '/', a leading '.', newline included — and `*` every string. -/
theorem C12_any (icase : Bool) (c : Char) : Item.accepts icase .any c = true := rfl

theorem C12_star_all (icase : Bool) (s : List Char) : denot icase [.star] s = true := by
  simp only [denot, List.any_eq_true, List.mem_range]
  exact ⟨s.length, by omega, by simp⟩

/-- A literal accepts exactly its own character (case-sensitively), nothing else is special. -/
theorem C12_literal (c x : Char) : Item.accepts false (.lit c) x = true ↔ x = c := by
  simp only [Item.accepts, Bool.false_and, Bool.or_false, beq_iff_eq]
  exact eq_comm

/-- A pattern ending in a lone backslash matches nothing. -/
theorem C12_lone_backslash (icase : Bool) (p s : List Char) (h : items p = .never) :
    globMatches icase p s = .ok false := by
  simp [globMatches, h]

def outBool : Outcome Bool → Option Bool
  | .ok b => some b
  | _ => none

example : (match items ['a', '\\'] with | .never => true | _ => false) = true := by decide +kernel
example : outBool (globMatches false ['*', '.', 'c'] ['.', 'c']) = some true ∧
    outBool (globMatches false ['a'] ['x', 'a']) = some false ∧
    outBool (globMatches false ['[', '!', 'a', '-', 'c', ']', '?'] ['d', '\n']) = some true ∧
    outBool (globMatches false ['[', 'a'] ['[', 'a']) = some true := by decide +kernel

end FuModel.Find.Glob
