import FuModel.Proofs.GlobComplete

/-!
# Plain bracket expressions are translated to the fnmatch specification (C12)

A *plain* bracket expression is `[` `!`? member+ `]` whose members are single characters other than
`] [ \ - ! ^ :` or ranges `a-b` between two such characters with `a ≤ b` — `[abc]`, `[a-z0-9_]`,
`[!a-z]`, `[.?*]`.  Patterns are described generatively (`PTok`): any sequence of ordinary
characters, quoted characters, `?`, `*` and plain bracket expressions.  For every such pattern the
scanner (`extract_bracket_expr`), the validity check and the engine's reading of the fragment
produce exactly the item the specification parses, and the whole pipeline is exactly fnmatch
(`glob_toks_is_fnmatch`).

Each reader is characterised on its own, one rendered unit at a time: the two member parsers on
`m.text ++ t` (`parseMembers_step`, `parseSet_step`), the two pattern parsers on `t.text ++ rest`
(`globItems_tok`, `specParse_tok`); the statements about whole bodies and whole patterns are
inductions over these.

Outside this class (a quoted or special character inside brackets, classes, `]` first, `[` inside)
the comparison is carried by the correspondence runs, and that is where the three known findings of
C12 live.
-/
namespace FuModel.Find.Glob
open FuModel.Spec.Fnmatch

def plain (c : Char) : Bool :=
  !(c == ']' || c == '[' || c == '\\' || c == '-' || c == '!' || c == '^' || c == ':')

inductive PM where
  | ch (c : Char)
  | range (a b : Char)

def PM.ok : PM → Bool
  | .ch c => plain c
  | .range a b => plain a && plain b && decide (a.toNat ≤ b.toNat)

def PM.text : PM → List Char
  | .ch c => [c]
  | .range a b => [a, '-', b]

def PM.mem : PM → Mem
  | .ch c => .ch c
  | .range a b => .range a b

def PM.smem : PM → SMem
  | .ch c => .ch c
  | .range a b => .range a b

def bodyText (ms : List PM) : List Char := ms.flatMap PM.text

inductive PTok where
  | lit (c : Char)
  | esc (c : Char)
  | any
  | star
  | set (neg : Bool) (ms : List PM)

def PTok.ok : PTok → Bool
  | .lit c => !(c == '?' || c == '*' || c == '\\' || c == '[')
  | .set _ ms => !ms.isEmpty && ms.all PM.ok
  | _ => true

def PTok.text : PTok → List Char
  | .lit c => [c]
  | .esc c => ['\\', c]
  | .any => ['?']
  | .star => ['*']
  | .set neg ms => '[' :: (if neg then ['!'] else []) ++ bodyText ms ++ [']']

def PTok.item : PTok → Item
  | .lit c => .lit c
  | .esc c => .lit c
  | .any => .any
  | .star => .star
  | .set neg ms => .set neg (ms.map PM.mem) ('[' :: (if neg then ['^'] else []) ++ bodyText ms ++ [']'])

def PTok.sitem : PTok → SItem
  | .lit c => .lit c
  | .esc c => .lit c
  | .any => .any
  | .star => .star
  | .set neg ms => .set neg (ms.map PM.smem)

def patText (ts : List PTok) : List Char := ts.flatMap PTok.text

theorem bodyText_cons (m : PM) (r : List PM) : bodyText (m :: r) = m.text ++ bodyText r := rfl
theorem patText_cons (t : PTok) (r : List PTok) : patText (t :: r) = t.text ++ patText r := rfl

theorem succ_of_lt {n fuel : Nat} (h : n < fuel) : ∃ f, fuel = f + 1 := ⟨fuel - 1, by omega⟩

/-- fuel counted in units (members, tokens) is covered by fuel counted in characters -/
theorem length_le_flatMap {α β : Type} (f : α → List β) (hf : ∀ a, f a ≠ []) (l : List α) :
    l.length ≤ (l.flatMap f).length := by
  induction l with
  | nil => simp
  | cons a r ih =>
    have := List.length_pos_iff.mpr (hf a)
    simp only [List.flatMap_cons, List.length_append, List.length_cons]; omega

theorem length_le_body (ms : List PM) : ms.length ≤ (bodyText ms).length :=
  length_le_flatMap PM.text (by intro m; cases m <;> simp [PM.text]) ms

theorem length_le_pat (ts : List PTok) : ts.length ≤ (patText ts).length :=
  length_le_flatMap PTok.text (by intro t; cases t <;> simp [PTok.text]) ts

theorem plain_ne {c : Char} (h : plain c = true) :
    c ≠ ']' ∧ c ≠ '[' ∧ c ≠ '\\' ∧ c ≠ '-' ∧ c ≠ '!' ∧ c ≠ '^' ∧ c ≠ ':' := by
  simp [plain] at h
  exact ⟨h.1.1.1.1.1.1, h.1.1.1.1.1.2, h.1.1.1.1.2, h.1.1.1.2, h.1.1.2, h.1.2, h.2⟩

/-- what the scanner and the validity check need of a body: no bracket and no `:` in it -/
theorem body_chars {ms : List PM} (h : ms.all PM.ok = true) :
    ∀ c ∈ bodyText ms, c ≠ ']' ∧ c ≠ '[' ∧ c ≠ ':' := by
  intro c hc
  obtain ⟨m, hm, hcm⟩ := List.mem_flatMap.mp hc
  have hok := List.all_eq_true.mp h m hm
  have keep {x : Char} (hx : plain x = true) : x ≠ ']' ∧ x ≠ '[' ∧ x ≠ ':' := by
    obtain ⟨h1, h2, -, -, -, -, h7⟩ := plain_ne hx; exact ⟨h1, h2, h7⟩
  cases m with
  | ch x => obtain rfl : c = x := by simpa [PM.text] using hcm
            exact keep hok
  | range a b =>
    simp only [PM.ok, Bool.and_eq_true] at hok
    simp only [PM.text, List.mem_cons, List.not_mem_nil, or_false] at hcm
    rcases hcm with rfl | rfl | rfl
    · exact keep hok.1.1
    · decide
    · exact keep hok.1.2

theorem body_head {ms : List PM} (hne : ms ≠ []) (h : ms.all PM.ok = true) :
    ∃ c r, bodyText ms = c :: r ∧ plain c = true := by
  cases ms with
  | nil => exact absurd rfl hne
  | cons m r =>
    simp only [List.all_cons, Bool.and_eq_true] at h
    cases m with
    | ch x => exact ⟨x, bodyText r, by simp [bodyText, PM.text], h.1⟩
    | range a b =>
      simp only [PM.ok, Bool.and_eq_true] at h
      exact ⟨a, '-' :: b :: bodyText r, by simp [bodyText, PM.text], h.1.1.1⟩

/-- a member is never followed by `-`: what follows is the next member or the end of the body -/
theorem body_follow {ms : List PM} (h : ms.all PM.ok = true) {t : List Char} (ht : t.head? ≠ some '-') :
    (bodyText ms ++ t).head? ≠ some '-' := by
  cases ms with
  | nil => simpa [bodyText] using ht
  | cons m r =>
    obtain ⟨c, r', h1, h2⟩ := body_head (List.cons_ne_nil m r) h
    obtain ⟨-, -, -, hc4, -⟩ := plain_ne h2
    rw [h1]; simpa using hc4

theorem scanLoop_body (body rest : List Char) (hb : ∀ c ∈ body, c ≠ ']' ∧ c ≠ '[' ∧ c ≠ ':') :
    ∀ (fuel : Nat) (acc : List Char), body.length < fuel →
      scanLoop fuel (body ++ ']' :: rest) acc = .ok (acc.reverse ++ body ++ [']']) rest := by
  induction body with
  | nil =>
    intro fuel acc hf
    obtain ⟨f, rfl⟩ := succ_of_lt hf
    simp [scanLoop]
  | cons c cs ih =>
    intro fuel acc hf
    obtain ⟨f, rfl⟩ := succ_of_lt hf
    have hc := hb c (by simp)
    have := ih (fun x hx => hb x (by simp [hx])) f (c :: acc) (by simp at hf; omega)
    simp [scanLoop, hc.1, hc.2.1, this]

theorem simple_body (t : List Char) (hb : ∀ c ∈ t, c ≠ ']' ∧ c ≠ '[' ∧ c ≠ ':') :
    simpleFragment.count (t ++ [']']) = 1 ∧ simpleFragment.hasCollate (t ++ [']']) = false := by
  induction t with
  | nil => simp [simpleFragment.count, simpleFragment.hasCollate]
  | cons c cs ih =>
    have hc := hb c (by simp)
    have := ih (fun x hx => hb x (by simp [hx]))
    simp [simpleFragment.count, simpleFragment.hasCollate, hc.1, hc.2.1, hc.2.2, this]

theorem parseMembers_step {m : PM} (hm : m.ok = true) {t : List Char} (ht : t.head? ≠ some '-') (f : Nat) :
    parseMembers (f + 1) (m.text ++ t) = (parseMembers f t).map (m.mem :: ·) := by
  cases m with
  | ch a =>
    obtain ⟨-, a2, -⟩ := plain_ne hm
    cases t with
    | nil => simp [PM.text, PM.mem, parseMembers]
    | cons x xs =>
      have hx : x ≠ '-' := by simpa using ht
      simp [PM.text, PM.mem, parseMembers, a2, hx]
  | range a b =>
    simp only [PM.ok, Bool.and_eq_true, decide_eq_true_eq] at hm
    have hb' : (b == '[') = false := by simpa using (plain_ne hm.1.2).2.1
    cases t with
    | nil => simp [PM.text, PM.mem, parseMembers, hm.2, hb']
    | cons x xs =>
      have hx : x ≠ '-' := by simpa using ht
      simp [PM.text, PM.mem, parseMembers, hm.2, hb', hx]

theorem parseSet_step {m : PM} (hm : m.ok = true) {t : List Char} (ht : t.head? ≠ some '-') (f : Nat) (first : Bool) :
    parseSet (f + 1) (m.text ++ t) first =
      (parseSet f t false).map fun (ms, rest, u) => (m.smem :: ms, rest, u) := by
  cases m with
  | ch a =>
    obtain ⟨a1, a2, a3, -⟩ := plain_ne hm
    cases t with
    | nil => simp [PM.text, PM.smem, parseSet, a1, a3]
    | cons x xs =>
      have hx : x ≠ '-' := by simpa using ht
      simp [PM.text, PM.smem, parseSet, a1, a2, a3, hx]
  | range a b =>
    simp only [PM.ok, Bool.and_eq_true, decide_eq_true_eq] at hm
    obtain ⟨a1, a2, a3, -⟩ := plain_ne hm.1.1
    obtain ⟨b1, b2, b3, -⟩ := plain_ne hm.1.2
    have : ¬ b.toNat < a.toNat := by omega
    have hb' : (b == '[') = false := by simpa using b2
    have ht' : (t.head? == some '-') = false := by simpa using ht
    simp [PM.text, PM.smem, parseSet, a1, a2, a3, b1, b3, hb', ht', this]

theorem parseMembers_body {ms : List PM} (h : ms.all PM.ok = true) :
    ∀ fuel, ms.length < fuel → parseMembers fuel (bodyText ms) = some (ms.map PM.mem) := by
  induction ms with
  | nil =>
    intro fuel hf
    obtain ⟨f, rfl⟩ := succ_of_lt hf
    rfl
  | cons m r ih =>
    intro fuel hf
    simp only [List.all_cons, Bool.and_eq_true] at h
    obtain ⟨f, rfl⟩ := succ_of_lt hf
    have hfol := body_follow h.2 (t := []) (by simp)
    rw [List.append_nil] at hfol
    rw [bodyText_cons, parseMembers_step h.1 hfol, ih h.2 f (by simpa using hf)]
    rfl

theorem parseSet_body {ms : List PM} (h : ms.all PM.ok = true) (rest : List Char) :
    ∀ fuel first, ms.length < fuel → (first = true → ms ≠ []) →
      parseSet fuel (bodyText ms ++ ']' :: rest) first = some (ms.map PM.smem, rest, false) := by
  induction ms with
  | nil =>
    intro fuel first hf hfirst
    obtain ⟨f, rfl⟩ := succ_of_lt hf
    cases first with
    | true => exact absurd rfl (hfirst rfl)
    | false => simp [bodyText, parseSet]
  | cons m r ih =>
    intro fuel first hf _
    simp only [List.all_cons, Bool.and_eq_true] at h
    obtain ⟨f, rfl⟩ := succ_of_lt hf
    have hfol := body_follow h.2 (t := ']' :: rest) (by simp)
    rw [bodyText_cons, List.append_assoc, parseSet_step h.1 hfol, ih h.2 f false (by simpa using hf) (by simp)]
    rfl

theorem scanBracket_plain (neg : Bool) {ms : List PM} (hne : ms ≠ []) (h : ms.all PM.ok = true)
    (rest : List Char) :
    scanBracket ((if neg then ['!'] else []) ++ bodyText ms ++ ']' :: rest) =
      .ok ((if neg then ['^'] else []) ++ bodyText ms ++ [']']) rest := by
  obtain ⟨c, r, h1, h2⟩ := body_head hne h
  obtain ⟨hc1, -, -, -, hc5, -⟩ := plain_ne h2
  have hloop := scanLoop_body (bodyText ms) rest (body_chars h)
  rw [h1] at hloop ⊢
  simp only [List.cons_append] at hloop
  cases neg <;> simp [scanBracket, hc1, hc5] <;> rw [hloop _ _ (by simp; omega)] <;> simp

theorem simpleFragment_plain (neg : Bool) {ms : List PM} (hne : ms ≠ []) (h : ms.all PM.ok = true) :
    simpleFragment ((if neg then ['^'] else []) ++ bodyText ms ++ [']']) = true := by
  obtain ⟨c, r, h1, h2⟩ := body_head hne h
  obtain ⟨hc1, -, -, -, -, hc6, -⟩ := plain_ne h2
  obtain ⟨hcnt, hcol⟩ := simple_body (bodyText ms) (body_chars h)
  have hlast : (bodyText ms ++ [']']).getLast? = some ']' := by simp
  rw [h1] at hcnt hcol hlast ⊢
  simp only [List.cons_append] at hcnt hcol hlast
  cases neg <;> simp [simpleFragment, hc1, hc6, hcnt, hcol, hlast]

theorem readFragment_plain (neg : Bool) {ms : List PM} (hne : ms ≠ []) (h : ms.all PM.ok = true) :
    readFragment ((if neg then ['^'] else []) ++ bodyText ms ++ [']']) = some (neg, ms.map PM.mem) := by
  obtain ⟨c, r, h1, h2⟩ := body_head hne h
  obtain ⟨hc1, -, -, -, -, hc6, -⟩ := plain_ne h2
  have hpm := parseMembers_body h ((bodyText ms).length + 1) (Nat.lt_succ_of_le (length_le_body ms))
  have hnc : ¬ ']' ∈ bodyText ms := fun hm => (body_chars h _ hm).1 rfl
  rw [h1] at hpm hnc ⊢
  simp only [List.mem_cons, not_or] at hnc
  simp only [List.length_cons] at hpm
  cases neg <;> simp [readFragment, hc1, hc1.symm, hc6, hnc.2, hpm, hne]

theorem set_text (neg : Bool) (ms : List PM) (rest : List Char) :
    (PTok.set neg ms).text ++ rest = '[' :: ((if neg then ['!'] else []) ++ bodyText ms ++ ']' :: rest) := by
  simp [PTok.text]

/-- the `cont` of `globItems` -/
def consOk (it : Item) : Outcome (List Item) → Outcome (List Item)
  | .ok is => .ok (it :: is)
  | o => o

theorem globItems_tok {t : PTok} (ht : t.ok = true) (rest : List Char) (f : Nat) :
    globItems (f + 1) (t.text ++ rest) = consOk t.item (globItems f rest) := by
  cases t with
  | lit c =>
    simp [PTok.ok] at ht
    simp [PTok.text, PTok.item, globItems, ht]; rfl
  | esc c => rfl
  | any => rfl
  | star => rfl
  | set neg ms =>
    simp only [PTok.ok, Bool.and_eq_true, Bool.not_eq_true', List.isEmpty_eq_false_iff] at ht
    rw [set_text]
    simp only [globItems, scanBracket_plain neg ht.1 ht.2, simpleFragment_plain neg ht.1 ht.2,
      readFragment_plain neg ht.1 ht.2]
    simp [PTok.item]; rfl

theorem specParse_tok {t : PTok} (ht : t.ok = true) (rest : List Char) (f : Nat) :
    specParse (f + 1) (t.text ++ rest) = (specParse f rest).map fun (is, u) => (t.sitem :: is, u) := by
  cases t with
  | lit c =>
    simp [PTok.ok] at ht
    simp [PTok.text, PTok.sitem, specParse, ht]
  | esc c => rfl
  | any => rfl
  | star => rfl
  | set neg ms =>
    simp only [PTok.ok, Bool.and_eq_true, Bool.not_eq_true', List.isEmpty_eq_false_iff] at ht
    obtain ⟨c, r, h1, h2⟩ := body_head ht.1 ht.2
    obtain ⟨-, -, -, -, hc5, hc6, -⟩ := plain_ne h2
    have hps := fun fuel hf => parseSet_body ht.2 rest fuel true hf (fun _ => ht.1)
    have hlen := length_le_body ms
    rw [set_text]
    cases neg
    · rw [h1] at hps hlen
      simp only [List.cons_append] at hps
      simp [specParse, h1, hc5, hc6]
      rw [hps _ (by simp at hlen ⊢; omega)]
      simp [ht.1, PTok.sitem]
    · simp [specParse]
      rw [hps _ (by omega)]
      simp [ht.1, PTok.sitem]

/-- the two parsers on a token sequence, possibly followed by a lone backslash -/
theorem parse_plain {ts : List PTok} (hok : ts.all PTok.ok = true) (lone : Bool) :
    ∀ fuel, ts.length < fuel →
      globItems fuel (patText ts ++ if lone then ['\\'] else []) =
        (if lone then .never else .ok (ts.map PTok.item)) ∧
      specParse fuel (patText ts ++ if lone then ['\\'] else []) =
        if lone then none else some (ts.map PTok.sitem, false) := by
  induction ts with
  | nil =>
    intro fuel hf
    obtain ⟨f, rfl⟩ := succ_of_lt hf
    cases lone <;> simp [patText, globItems, specParse]
  | cons t r ih =>
    intro fuel hf
    simp only [List.all_cons, Bool.and_eq_true] at hok
    obtain ⟨f, rfl⟩ := succ_of_lt hf
    obtain ⟨g1, g2⟩ := ih hok.2 f (by simpa using hf)
    rw [patText_cons, List.append_assoc, globItems_tok hok.1, specParse_tok hok.1, g1, g2]
    cases lone <;> exact ⟨rfl, rfl⟩

theorem mem_has_eq (m : PM) (c : Char) : m.smem.has c = m.mem.has c := by
  cases m <;> rfl

theorem accepts_plain (t : PTok) (c : Char) : t.sitem.accepts false c = t.item.accepts false c := by
  cases t with
  | set neg ms => simp [PTok.item, PTok.sitem, Item.accepts, SItem.accepts, List.any_map, Function.comp_def, mem_has_eq]
  | _ => simp [PTok.item, PTok.sitem, Item.accepts, SItem.accepts]

theorem denot_plain (ts : List PTok) : ∀ s, specMatch false (ts.map PTok.sitem) s = denot false (ts.map PTok.item) s := by
  induction ts with
  | nil => intro s; rfl
  | cons t r ih =>
    intro s
    have hacc := accepts_plain t
    cases t <;> cases s <;> simp only [PTok.item, PTok.sitem, List.map_cons, specMatch, denot, ih] at hacc ⊢ <;> rw [hacc]

/-- **Plain patterns, with or without a trailing lone backslash: the whole pipeline is exactly fnmatch.** -/
theorem glob_toks_is_fnmatch {ts : List PTok} (hok : ts.all PTok.ok = true) (lone : Bool) (s : List Char) :
    (match globMatches false (patText ts ++ if lone then ['\\'] else []) s with | .ok b => some b | _ => none) =
      fnmatch false (patText ts ++ if lone then ['\\'] else []) s := by
  have hlen : ts.length < (patText ts ++ if lone then ['\\'] else []).length + 1 := by
    have := length_le_pat ts
    simp only [List.length_append]; omega
  obtain ⟨g1, g2⟩ := parse_plain hok lone _ hlen
  unfold globMatches items fnmatch
  rw [g1, g2]
  cases lone
  · simp only [Bool.false_eq_true, if_false, denot_plain ts s]
    congr 1
    exact Bool.eq_iff_iff.mpr (C12_mechanism_exact false _ s)
  · rfl

/-! ### patterns without `[`
A pattern without `[` is a sequence of plain tokens (`?`, `*`, `\c`, ordinary characters — no
bracket expression among them), possibly followed by a lone backslash (`bracket_free_tokens`); so
this is the case "no `set` token" of `glob_toks_is_fnmatch`.
-/

def tr : Item → SItem
  | .lit c => .lit c
  | .any => .any
  | .star => .star
  | .set neg _ _ => .set neg []

def noSet : Item → Bool
  | .set _ _ _ => false
  | _ => true

theorem accepts_tr (it : Item) (h : noSet it = true) (c : Char) : (tr it).accepts false c = it.accepts false c := by
  cases it <;> simp [noSet] at h <;> simp [tr, SItem.accepts, Item.accepts]

/-- Tokenising from the left, a backslash takes the next character with it: the statement for `p`
    is proved together with the one for `\` followed by `p`. -/
theorem bracket_free_tokens (p : List Char) (hb : ∀ c ∈ p, c ≠ '[') :
    ∀ q, q = p ∨ q = '\\' :: p →
      ∃ ts, ∃ lone : Bool, ts.all PTok.ok = true ∧ q = patText ts ++ if lone then ['\\'] else [] := by
  induction p with
  | nil =>
    rintro q (rfl | rfl)
    · exact ⟨[], false, rfl, rfl⟩
    · exact ⟨[], true, rfl, rfl⟩
  | cons c r ih =>
    obtain ⟨ts, lone, hok, e⟩ := ih (fun x hx => hb x (by simp [hx])) r (.inl rfl)
    have add (t : PTok) (ht : t.ok = true) : ∃ ts', ∃ lone : Bool,
        ts'.all PTok.ok = true ∧ t.text ++ r = patText ts' ++ if lone then ['\\'] else [] :=
      ⟨t :: ts, lone, by rw [List.all_cons, ht, hok]; rfl, by rw [patText_cons, List.append_assoc, ← e]⟩
    rintro q (rfl | rfl)
    · by_cases h1 : c = '\\'
      · exact h1 ▸ ih (fun x hx => hb x (by simp [hx])) _ (.inr rfl)
      · by_cases h2 : c = '?'
        · exact h2 ▸ add .any rfl
        · by_cases h3 : c = '*'
          · exact h3 ▸ add .star rfl
          · exact add (.lit c) (by simp [PTok.ok, h1, h2, h3, hb c])
    · exact add (.esc c) rfl

/-- the two parsers agree on patterns without `[` -/
theorem parse_agree : ∀ (fuel : Nat) (p : List Char), p.length < fuel → (∀ c ∈ p, c ≠ '[') →
    (globItems fuel p = .never ∧ specParse fuel p = none) ∨
    ∃ is, globItems fuel p = .ok is ∧ specParse fuel p = some (is.map tr, false) ∧ ∀ it ∈ is, noSet it = true := by
  intro fuel p hl hb
  obtain ⟨ts, lone, hok, rfl⟩ := bracket_free_tokens p hb p (.inl rfl)
  -- a bracket token would put a `[` into the text
  have hns : ∀ t ∈ ts, tr t.item = t.sitem ∧ noSet t.item = true := by
    intro t ht
    cases t with
    | set neg ms =>
      exact absurd rfl (hb '[' (List.mem_append_left _ (List.mem_flatMap.mpr ⟨_, ht, by simp [PTok.text]⟩)))
    | _ => exact ⟨rfl, rfl⟩
  obtain ⟨g1, g2⟩ := parse_plain hok lone fuel (by have := length_le_pat ts; simp at hl; omega)
  cases lone
  · refine .inr ⟨ts.map PTok.item, g1, ?_, by simpa using fun t ht => (hns t ht).2⟩
    rw [g2, List.map_map, List.map_congr_left fun t ht => (hns t ht).1.symm]; rfl
  · exact .inl ⟨g1, g2⟩

end FuModel.Find.Glob
