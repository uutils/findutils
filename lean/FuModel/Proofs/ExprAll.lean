import FuModel.Find.Expr

/-!
# Every primary of a matcher tree, every evaluation of it

`M.prims` lists the primaries of a tree from left to right; `AllP`, `hasSE` (and `multis`, …) are
folds over it.

`evalAnd`, `evalOr` and `evalList` are the same loop (`evalSeq`): evaluate the members in turn,
stop after a member whose value `halt`s or after which quit holds; the value is that of the last
member evaluated.  Every fact about `M.eval` in the development is an instance of one of two
theorems about that loop: `hoare_M` (what one evaluation does to the state) and `sim_M` (two
evaluations of the same tree that stay in step).  The instances that recur follow them: `relW_M`
(a relation on states that every primary respects, with a weight), `rel_M` (without weights),
`pure_M` (primaries that only test), and `relW_log` for `AppLog`, the relation most uses
instantiate `relW_M` with: a projection of the state that is only ever appended to.
-/

/-- from `a` to `b` (states satisfying `I`) the list `π` grew at its end by a sublist of `bound` -/
def FuModel.AppLog {σ β : Type} (I : σ → Prop) (π : σ → List β) (a b : σ) (bound : List β) : Prop :=
  I a → I b ∧ ∃ L, π b = π a ++ L ∧ L.Sublist bound

namespace FuModel.AppLog
variable {σ β : Type} {I : σ → Prop} {π : σ → List β}

theorem refl (s : σ) : AppLog I π s s [] := fun h => ⟨h, [], by simp, by simp⟩

theorem trans {a b c : σ} {l1 l2 : List β} (h1 : AppLog I π a b l1) (h2 : AppLog I π b c l2) :
    AppLog I π a c (l1 ++ l2) := fun h => by
  obtain ⟨hb, L1, e1, s1⟩ := h1 h
  obtain ⟨hc, L2, e2, s2⟩ := h2 hb
  exact ⟨hc, L1 ++ L2, by rw [e2, e1, List.append_assoc], s1.append s2⟩

theorem weaken {a b : σ} {l l' : List β} (h : AppLog I π a b l) (hs : l.Sublist l') : AppLog I π a b l' :=
  fun hI => let ⟨hb, L, e, s⟩ := h hI; ⟨hb, L, e, s.trans hs⟩

end FuModel.AppLog

namespace FuModel.Find.Expr
variable {P σ τ : Type}

/-- the primaries of the tree, left to right -/
def M.prims : M P → List P
  | .prim p => [p]
  | .not m => m.prims
  | .and ms => primsL ms
  | .or ms => primsL ms
  | .list ms => primsL ms
where primsL : List (M P) → List P
  | [] => []
  | m :: ms => m.prims ++ primsL ms

/-- every primary of the tree satisfies `q` -/
def M.AllP (q : P → Prop) : M P → Prop
  | .prim p => q p
  | .not m => m.AllP q
  | .and ms => AllPs ms
  | .or ms => AllPs ms
  | .list ms => AllPs ms
where AllPs : List (M P) → Prop
  | [] => True
  | m :: ms => m.AllP q ∧ AllPs ms

/-- the sum of the weights of the primaries of the tree -/
def M.weight (w : P → Nat) : M P → Nat
  | .prim p => w p
  | .not m => m.weight w
  | .and ms => weights ms
  | .or ms => weights ms
  | .list ms => weights ms
where weights : List (M P) → Nat
  | [] => 0
  | m :: ms => m.weight w + weights ms

mutual
theorem allP_iff (q : P → Prop) (m : M P) : m.AllP q ↔ ∀ p ∈ m.prims, q p :=
  match m with
  | .prim p => (List.forall_mem_singleton (p := q) (a := p)).symm
  | .not m => allP_iff q m
  | .and ms | .or ms | .list ms => allPs_iff q ms
theorem allPs_iff (q : P → Prop) (ms : List (M P)) : M.AllP.AllPs q ms ↔ ∀ p ∈ M.prims.primsL ms, q p :=
  match ms with
  | [] => ⟨fun _ _ => nofun, fun _ => trivial⟩
  | m :: ms => (and_congr (allP_iff q m) (allPs_iff q ms)).trans List.forall_mem_append.symm
end

theorem M.AllP.imp {q q' : P → Prop} {m : M P} (h : m.AllP q) (hq : ∀ p, q p → q' p) : m.AllP q' :=
  (allP_iff q' m).2 fun p hp => hq p ((allP_iff q m).1 h p hp)

theorem M.allP_true (m : M P) : m.AllP (fun _ => True) := (allP_iff _ m).2 fun _ _ => trivial

theorem M.allPs_true (ms : List (M P)) : M.AllP.AllPs (fun _ => True) ms := M.allP_true (.and ms)

mutual
theorem hasSE_eq_any (isAction : P → Bool) (m : M P) : m.hasSE isAction = m.prims.any isAction :=
  match m with
  | .prim _ => (Bool.or_false _).symm
  | .not m => hasSE_eq_any isAction m
  | .and ms | .or ms | .list ms => hasSEs_eq_any isAction ms
theorem hasSEs_eq_any (isAction : P → Bool) (ms : List (M P)) :
    M.hasSE.hasSEs isAction ms = (M.prims.primsL ms).any isAction :=
  match ms with
  | [] => rfl
  | m :: ms => (congr (congrArg or (hasSE_eq_any isAction m)) (hasSEs_eq_any isAction ms)).trans List.any_append.symm
end

section
variable (sem : P → σ → Bool × σ) (quit : σ → Bool)

def evalSeq (halt : Bool → Bool) : List (M P) → Bool → σ → Bool × σ
  | [], rc, s => (rc, s)
  | m :: ms, _, s =>
    let r := m.eval sem quit s
    if halt r.1 || quit r.2 then r else evalSeq halt ms r.1 r.2

theorem evalAnd_eq (ms : List (M P)) (s : σ) : evalAnd sem quit ms s = evalSeq sem quit (!·) ms true s := by
  induction ms generalizing s with
  | nil => rfl
  | cons m ms ih =>
    simp only [evalAnd, evalSeq, ih]
    generalize m.eval sem quit s = r
    obtain ⟨v, t⟩ := r
    cases v <;> cases quit t <;> rfl

theorem evalOr_eq (ms : List (M P)) (s : σ) : evalOr sem quit ms s = evalSeq sem quit id ms false s := by
  induction ms generalizing s with
  | nil => rfl
  | cons m ms ih =>
    simp only [evalOr, evalSeq, ih]
    generalize m.eval sem quit s = r
    obtain ⟨v, t⟩ := r
    cases v <;> cases quit t <;> rfl

theorem evalList_eq (ms : List (M P)) (rc : Bool) (s : σ) :
    evalList sem quit ms rc s = evalSeq sem quit (fun _ => false) ms rc s := by
  induction ms generalizing rc s with
  | nil => rfl
  | cons m ms ih => simp only [evalList, evalSeq, ih, Bool.false_or]

theorem evalSeq_single (halt : Bool → Bool) (m : M P) (rc : Bool) (s : σ) :
    evalSeq sem quit halt [m] rc s = m.eval sem quit s := ite_self _

section hoare
variable (q : P → Prop) (w : P → Nat) (I : σ → Prop) (T : σ → σ → Nat → Prop)
  (hr : ∀ s, T s s 0) (ht : ∀ a b c n1 n2, T a b n1 → T b c n2 → T a c (n1 + n2))
  (hw : ∀ a b n n', T a b n → n ≤ n' → T a b n')
  (hI : ∀ a b n, I a → T a b n → quit b = false → I b)
  (hs : ∀ p, q p → ∀ s, I s → T s (sem p s).2 (w p))
include hr ht hw hI hs
set_option linter.unusedSectionVars false

/- `T a b n`: from `a` the evaluation may reach `b` at cost `n`.  `I` is what is known of a state in
   which a member is evaluated; the loop only goes on from a state without quit, so `I` may say so. -/
mutual
theorem hoare_M (m : M P) (hall : m.AllP q) (s : σ) (hi : I s) : T s (m.eval sem quit s).2 (m.weight w) := by
  match m with
  | .prim p => exact hs p hall s hi
  | .not m => exact hoare_M m hall s hi
  | .and ms => rw [M.eval, evalAnd_eq]; exact hoare_seq _ ms hall true s hi
  | .or ms => rw [M.eval, evalOr_eq]; exact hoare_seq _ ms hall false s hi
  | .list ms => rw [M.eval, evalList_eq]; exact hoare_seq _ ms hall false s hi
theorem hoare_seq (halt : Bool → Bool) (ms : List (M P)) (hall : M.AllP.AllPs q ms) (rc : Bool) (s : σ) (hi : I s) :
    T s (evalSeq sem quit halt ms rc s).2 (M.weight.weights w ms) := by
  match ms with
  | [] => exact hr s
  | m :: ms =>
    have h1 := hoare_M m hall.1 s hi
    simp only [evalSeq, M.weight.weights]
    split
    · exact hw _ _ _ _ h1 (Nat.le_add_right _ _)
    · rename_i hc
      simp only [Bool.or_eq_true, not_or, Bool.not_eq_true] at hc
      exact ht _ _ _ _ _ h1 (hoare_seq halt ms hall.2 _ _ (hI _ _ _ hi h1 hc.2))
end
end hoare

section sim
variable (sem' : P → τ → Bool × τ) (quit' : τ → Bool) (q : P → Prop) (ρ : σ → τ → Prop)
  (hq : ∀ s t, ρ s t → quit s = quit' t)
  (hs : ∀ p, q p → ∀ s t, ρ s t → (sem p s).1 = (sem' p t).1 ∧ ρ (sem p s).2 (sem' p t).2)
include hq hs
set_option linter.unusedSectionVars false

mutual
theorem sim_M (m : M P) (hall : m.AllP q) (s : σ) (t : τ) (h : ρ s t) :
    (m.eval sem quit s).1 = (m.eval sem' quit' t).1 ∧ ρ (m.eval sem quit s).2 (m.eval sem' quit' t).2 := by
  match m with
  | .prim p => exact hs p hall s t h
  | .not m => have := sim_M m hall s t h; exact ⟨congrArg (!·) this.1, this.2⟩
  | .and ms => simp only [M.eval, evalAnd_eq]; exact sim_seq _ ms hall true s t h
  | .or ms => simp only [M.eval, evalOr_eq]; exact sim_seq _ ms hall false s t h
  | .list ms => simp only [M.eval, evalList_eq]; exact sim_seq _ ms hall false s t h
theorem sim_seq (halt : Bool → Bool) (ms : List (M P)) (hall : M.AllP.AllPs q ms) (rc : Bool) (s : σ) (t : τ)
    (h : ρ s t) :
    (evalSeq sem quit halt ms rc s).1 = (evalSeq sem' quit' halt ms rc t).1 ∧
      ρ (evalSeq sem quit halt ms rc s).2 (evalSeq sem' quit' halt ms rc t).2 := by
  match ms with
  | [] => exact ⟨rfl, h⟩
  | m :: ms =>
    have h1 := sim_M m hall.1 s t h
    simp only [evalSeq, ← h1.1, ← hq _ _ h1.2]
    split
    · exact h1
    · exact h1.1 ▸ sim_seq halt ms hall.2 _ _ _ h1.2
end
end sim

section relW
variable (q : P → Prop) (w : P → Nat) (T : σ → σ → Nat → Prop)
  (hr : ∀ s, T s s 0) (ht : ∀ a b c n1 n2, T a b n1 → T b c n2 → T a c (n1 + n2))
  (hw : ∀ a b n n', T a b n → n ≤ n' → T a b n')
  (hs : ∀ p, q p → ∀ s, T s (sem p s).2 (w p))
include hr ht hw hs

theorem relW_M (m : M P) (hall : m.AllP q) (s : σ) : T s (M.eval sem quit m s).2 (m.weight w) :=
  hoare_M sem quit q w (fun _ => True) T hr ht hw (fun _ _ _ _ _ _ => trivial) (fun p hp s _ => hs p hp s) m hall s trivial

theorem relW_and (ms : List (M P)) (hall : M.AllP.AllPs q ms) (s : σ) :
    T s (evalAnd sem quit ms s).2 (M.weight.weights w ms) := relW_M sem quit q w T hr ht hw hs (.and ms) hall s

theorem relW_or (ms : List (M P)) (hall : M.AllP.AllPs q ms) (s : σ) :
    T s (evalOr sem quit ms s).2 (M.weight.weights w ms) := relW_M sem quit q w T hr ht hw hs (.or ms) hall s

theorem relW_list (ms : List (M P)) (hall : M.AllP.AllPs q ms) (rc : Bool) (s : σ) :
    T s (evalList sem quit ms rc s).2 (M.weight.weights w ms) :=
  match ms with
  | [] => hr s
  | m :: ms => relW_M sem quit q w T hr ht hw hs (.list (m :: ms)) hall s
end relW

/-- the form most uses need: every primary appends to `π` at most `w p` copies of `e` -/
theorem relW_log {β : Type} (q : P → Prop) (w : P → Nat)
    (I : σ → Prop) (π : σ → List β) (e : β)
    (hs : ∀ p, q p → ∀ s, AppLog I π s (sem p s).2 (List.replicate (w p) e))
    (m : M P) (hall : m.AllP q) (s : σ) :
    AppLog I π s (M.eval sem quit m s).2 (List.replicate (m.weight w) e) :=
  relW_M sem quit q w (fun a b n => AppLog I π a b (List.replicate n e)) (fun s => AppLog.refl s)
    (fun _ _ _ _ _ h1 h2 => List.replicate_append_replicate ▸ h1.trans h2)
    (fun _ _ _ _ h hle => h.weaken (List.replicate_sublist_replicate _ |>.mpr hle)) hs m hall s

section rel
variable (R : σ → σ → Prop) (hr : ∀ s, R s s) (ht : ∀ a b c, R a b → R b c → R a c) (hs : ∀ p s, R s (sem p s).2)
include hr ht hs

theorem rel_M (m : M P) (s : σ) : R s (M.eval sem quit m s).2 :=
  relW_M sem quit (fun _ => True) (fun _ => 0) (fun a b _ => R a b) hr (fun a b c _ _ => ht a b c) (fun _ _ _ _ h _ => h)
    (fun p _ s => hs p s) m (M.allP_true m) s

theorem rel_and (ms : List (M P)) (s : σ) : R s (evalAnd sem quit ms s).2 := rel_M sem quit R hr ht hs (.and ms) s

theorem rel_or (ms : List (M P)) (s : σ) : R s (evalOr sem quit ms s).2 := rel_M sem quit R hr ht hs (.or ms) s

theorem rel_list (ms : List (M P)) (rc : Bool) (s : σ) : R s (evalList sem quit ms rc s).2 :=
  match ms with
  | [] => hr s
  | m :: ms => rel_M sem quit R hr ht hs (.list (m :: ms)) s
end rel

section pure
variable (q : P → Prop) (hq : ∀ p, q p → ∀ s s', (sem p s).2 = s ∧ (sem p s).1 = (sem p s').1)
include hq

/-- two evaluations stay in step from any two states that agree on quit -/
theorem pure_eval (m : M P) (hall : m.AllP q) (s s' : σ) (h : quit s = quit s') :
    (M.eval sem quit m s).2 = s ∧ (M.eval sem quit m s).1 = (M.eval sem quit m s').1 :=
  ⟨relW_M sem quit q (fun _ => 0) (fun a b _ => b = a) (fun _ => rfl) (fun _ _ _ _ _ h1 h2 => h2.trans h1)
      (fun _ _ _ _ h _ => h) (fun p hp s => (hq p hp s s).1) m hall s,
    (sim_M sem quit sem quit q (fun s s' => quit s = quit s') (fun _ _ h => h)
      (fun p hp s s' h => ⟨(hq p hp s s').2, by rw [(hq p hp s s).1, (hq p hp s' s').1]; exact h⟩) m hall s s' h).1⟩

theorem pure_M (m : M P) (hall : m.AllP q) (s s' : σ) (h : quit s = false) (h' : quit s' = false) :
    (M.eval sem quit m s).2 = s ∧ (M.eval sem quit m s).1 = (M.eval sem quit m s').1 :=
  pure_eval sem quit q hq m hall s s' (h.trans h'.symm)

theorem pure_and (ms : List (M P)) (hall : M.AllP.AllPs q ms) (s s' : σ) (h : quit s = false) (h' : quit s' = false) :
    (evalAnd sem quit ms s).2 = s ∧ (evalAnd sem quit ms s).1 = (evalAnd sem quit ms s').1 :=
  pure_M sem quit q hq (.and ms) hall s s' h h'

theorem pure_or (ms : List (M P)) (hall : M.AllP.AllPs q ms) (s s' : σ) (h : quit s = false) (h' : quit s' = false) :
    (evalOr sem quit ms s).2 = s ∧ (evalOr sem quit ms s).1 = (evalOr sem quit ms s').1 :=
  pure_M sem quit q hq (.or ms) hall s s' h h'

theorem pure_list (ms : List (M P)) (hall : M.AllP.AllPs q ms) (rc : Bool) (s s' : σ) (h : quit s = false) (h' : quit s' = false) :
    (evalList sem quit ms rc s).2 = s ∧ (evalList sem quit ms rc s).1 = (evalList sem quit ms rc s').1 :=
  match ms with
  | [] => ⟨rfl, rfl⟩
  | m :: ms => pure_M sem quit q hq (.list (m :: ms)) hall s s' h h'
end pure

end
end FuModel.Find.Expr
