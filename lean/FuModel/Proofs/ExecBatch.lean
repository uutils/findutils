import FuModel.Find.Run
import FuModel.Xargs.ExecLimit

/-!
# C08 — -exec … {} + : each path delivered once, in order, within OS limits

Model: `Find/Run.lean`: `MultiExecMatcher::matches` over a model of `argmax::Command`
(`available_argument_length`, `arg_size`, the per-argument cap), `finished_dir` / `finished`, and
the `current_dir` bookkeeping of `process_dir` (`evalEntry`, `finishDir`).  The kernel's `execve`
acceptance predicate is the one of C06 (`Xargs/ExecLimit.lean`).
This file: the accounting of one command line, and that the kernel accepts what it admits.
-/
namespace FuModel.Find.Run
open FuModel.Xargs

/-- what has been charged against the budget: the fixed arguments and the paths so far -/
def Batch.Inv (budget : Nat) (cmd : Bytes) (fixed : List Bytes) (b : Batch) : Prop :=
  b.remaining = availableLength budget cmd - ((fixed ++ b.paths).map argSize).foldl (· + ·) 0 ∧
  0 ≤ b.remaining ∧ ∀ a ∈ fixed ++ b.paths, a.length ≤ maxSingleArg

theorem availableLength_nonneg (budget : Nat) (cmd : Bytes) : 0 ≤ availableLength budget cmd := by
  unfold availableLength; simp only; split <;> (try split) <;> omega

theorem strCostL_cons (x : Nat) (xs : List Nat) : strCostL (x :: xs) = x + 1 + strCostL xs := rfl

theorem sum_argSize (l : List Bytes) :
    (l.map argSize).foldl (· + ·) 0 = ((8 * l.length + strCostL (l.map List.length) : Nat) : Int) := by
  rw [← List.sum_eq_foldl]
  induction l with
  | nil => rfl
  | cons a as ih =>
    simp only [List.map_cons, List.sum_cons, ih, argSize, strCostL_cons, List.length_cons]
    omega

/-- a fresh batch satisfies the accounting invariant … -/
theorem C08_new_batch (budget : Nat) (cmd : Bytes) (fixed : List Bytes) (b : Batch)
    (h : newBatch budget cmd fixed = some b) : b.Inv budget cmd fixed ∧ b.paths = [] := by
  unfold newBatch at h
  simp only at h
  split at h
  · cases h
  · rename_i hc
    cases h
    simp only [Bool.or_eq_true, List.any_eq_true, decide_eq_true_eq, not_or, not_exists, not_and, Nat.not_lt,
      Int.not_lt] at hc
    exact ⟨⟨by simp, by show (0 : Int) ≤ _ - _; omega, by simpa using hc.1⟩, rfl⟩

/-- … and appending a path keeps it: the path goes to the end of the command line. -/
theorem C08_try_arg (budget : Nat) (cmd : Bytes) (fixed : List Bytes) (b b' : Batch) (a : Bytes)
    (hi : b.Inv budget cmd fixed) (h : b.tryArg a = some b') :
    b'.Inv budget cmd fixed ∧ b'.paths = b.paths ++ [a] := by
  unfold Batch.tryArg at h
  split at h
  · cases h
  · rename_i hc
    cases h
    simp only [Bool.or_eq_true, decide_eq_true_eq, not_or, Nat.not_lt, Int.not_lt] at hc
    refine ⟨⟨?_, by show 0 ≤ b.remaining - _; omega, ?_⟩, rfl⟩
    · show b.remaining - argSize a = _
      rw [← List.append_assoc, List.map_append, List.foldl_append, hi.1]
      show _ = _ - (_ + argSize a)
      omega
    · intro x hx
      rw [← List.append_assoc, List.mem_append, List.mem_singleton] at hx
      exact hx.elim (hi.2.2 x) fun h => h ▸ hc.1

/-- A path is refused only if it does not fit what is left (or is longer than any argument may be):
    batches are filled as far as the budget allows. -/
theorem C08_refused_iff (b : Batch) (a : Bytes) :
    b.tryArg a = none ↔ a.length > maxSingleArg ∨ argSize a > b.remaining := by
  unfold Batch.tryArg
  split <;> simp_all

/-- a positive `available_argument_length` leaves the command name and argmax's reserve within the
    budget (6169 = 8 + (8 + 1) + 8 + 4096 + 2048: two terminating pointers, the name's pointer and
    NUL, a page, POSIX's headroom) -/
theorem availableLength_le (budget : Nat) (cmd : Bytes) (hpos : 0 < availableLength budget cmd) :
    availableLength budget cmd + cmd.length + 6169 ≤ budget := by
  unfold availableLength argSize at *
  simp only at *
  split at hpos
  · cases hpos
  · split <;> omega

/-- `execve` accepts a non-empty argument vector of short enough strings when all that the kernel
    charges (the file name, every string, a pointer per string) is within the limit -/
theorem execAcceptsL_of_total {limit fileLen : Nat} {argv envp : List Nat} (hne : 0 < argv.length)
    (hlen : ∀ l ∈ argv ++ envp, l + 1 ≤ 131072)
    (htot : fileLen + 1 + strCostL argv + strCostL envp + 8 * (argv.length + envp.length) ≤ limit) :
    execAcceptsL limit fileLen argv envp = true := by
  simp only [execAcceptsL, Nat.max_eq_left hne, Bool.and_eq_true, List.all_eq_true, decide_eq_true_eq]
  exact ⟨⟨hlen, by omega⟩, by omega⟩

/-- Every command line built this way is accepted by the operating system: with `ARG_MAX` the
    kernel's limit, the budget `ARG_MAX` minus the size of the environment as argmax counts it, a
    program name whose resolved path is shorter than 6 KiB, and environment strings the kernel
    accepted for find itself — `execve(file, cmd :: fixed ++ paths, envp)` satisfies the kernel's
    acceptance predicate, however many or long the paths are. -/
theorem C08_os_accepts (limit : Nat) (envp : List Nat) (fileLen : Nat) (cmd : Bytes) (fixed : List Bytes) (b : Batch)
    (hb : b.Inv (limit - (strCostL envp + 8 * envp.length)) cmd fixed)
    (hfile : fileLen + 1 ≤ 6144) (hcmd : cmd.length ≤ maxSingleArg)
    (henv : ∀ l ∈ envp, l + 1 ≤ 131072) (hpos : 0 < availableLength (limit - (strCostL envp + 8 * envp.length)) cmd) :
    execAcceptsL limit fileLen ((cmd :: fixed ++ b.paths).map List.length) envp = true := by
  obtain ⟨hrem, hnn, hlen⟩ := hb
  have hav := availableLength_le _ cmd hpos
  rw [sum_argSize] at hrem
  refine execAcceptsL_of_total (by simp) ?_ ?_
  · intro l hl
    rcases List.mem_append.1 hl with hl | hl
    · obtain ⟨a, ha, rfl⟩ := List.mem_map.1 hl
      exact Nat.succ_le_succ ((List.mem_cons.1 ha).elim (· ▸ hcmd) (hlen a))
    · exact henv l hl
  · rw [List.cons_append, List.map_cons, List.length_cons, List.length_map, strCostL_cons]
    omega

example : (newBatch 200000 [99] [[45, 120]]).map (·.remaining) = some (200000 - 8 - 10 - 8 - 4096 - 2048 - 11) := by decide

end FuModel.Find.Run
