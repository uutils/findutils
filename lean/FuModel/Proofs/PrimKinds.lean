import FuModel.Find.Run
import FuModel.Proofs.ExprAll

/-!
# The primaries by what they touch

Tests look at the entry only; the output actions append to `out`; `-prune`/`-quit` set their flag;
`-delete` appends to `deleted` (or counts a diagnostic); `-exec … ;` and `-exec … +` start commands
and keep the batches.  Each fact about `sem` that the lifts need is stated here once per kind.
-/
namespace FuModel.Find.Run
open FuModel.Find.Walk FuModel.Find.Expr

theorem spawn_fst (g : GS) (ok : Bool) (argv : List Bytes) (cwd : Option Bytes) :
    (g.spawn ok argv cwd).1 = if ok then some (g.script.headD 0) else none := by
  unfold GS.spawn
  cases ok <;> cases g.script <;> rfl

theorem spawn_snd (g : GS) (ok : Bool) (argv : List Bytes) (cwd : Option Bytes) :
    (g.spawn ok argv cwd).2 =
      { g with execs := g.execs ++ (if ok then [⟨argv, cwd⟩] else []), script := if ok then g.script.tail else g.script } := by
  obtain ⟨_, _, sc, _, _, _, _, _, _, _⟩ := g
  cases ok <;> cases sc <;> simp [GS.spawn]

/-- the tests: primaries that only look at the entry -/
def isTestP : Prim → Bool
  | .true_ | .false_ | .opt | .name _ | .typeIs _ | .xtype _ | .perm _ _ | .statCmp _ _ | .empty
  | .samefile _ _ | .lname _ | .regex _ _ => true
  | _ => false

/-- the actions that only write, with what they write for an entry -/
def outOf (start : Bytes) (v : Visit Attr) : Prim → Option Bytes
  | .pathOut pre term => some (pre ++ FuModel.Utf8.lossy (pathOf start v.ent.rpath) ++ term)
  | .lit b => some b
  | .printf comps _ => some (PrintfR.render start v comps)
  | _ => none

def isOutP : Prim → Bool
  | .pathOut _ _ | .lit _ | .printf _ _ => true
  | _ => false

def es0 : ES := ⟨{}, false, false, 0⟩

/-- primaries that neither start commands nor touch the batches -/
def quiet : Prim → Bool
  | .exec _ _ _ _ => false
  | .execMulti _ _ _ _ _ => false
  | _ => true

def wT (p : Prim) : Nat := if quiet p then 0 else 1

def notPrune : Prim → Bool
  | .prune => false
  | _ => true

/-- what a primary contributes to `M.multis` -/
def multiOf (p : Prim) : List (Nat × Bool × Bool × Bytes × List Bytes) := M.multis (.prim p)

mutual
theorem multis_eq (m : M Prim) : M.multis m = m.prims.flatMap multiOf := by
  match m with
  | .prim p => simp [M.prims, multiOf]
  | .not m => simpa [M.multis, M.prims] using multis_eq m
  | .and ms => simpa [M.multis, M.prims] using multisGo_eq ms
  | .or ms => simpa [M.multis, M.prims] using multisGo_eq ms
  | .list ms => simpa [M.multis, M.prims] using multisGo_eq ms
theorem multisGo_eq (ms : List (M Prim)) : M.multis.go ms = (M.prims.primsL ms).flatMap multiOf := by
  match ms with
  | [] => rfl
  | m :: ms => simp [M.multis.go, M.prims.primsL, multis_eq m, multisGo_eq ms]
end

theorem quiet_of_test {p : Prim} (h : isTestP p = true) : quiet p = true := by
  cases p with | exec | execMulti => cases h | _ => rfl

theorem quiet_of_out {p : Prim} (h : isOutP p = true) : quiet p = true := by
  cases p with | exec | execMulti => cases h | _ => rfl

theorem notPrune_of_test {p : Prim} (h : isTestP p = true) : notPrune p = true := by
  cases p with | prune => cases h | _ => rfl

theorem notPrune_of_out {p : Prim} (h : isOutP p = true) : notPrune p = true := by
  cases p with | prune => cases h | _ => rfl

theorem multiOf_quiet {p : Prim} (h : quiet p = true) : multiOf p = [] := by
  cases p with | execMulti => cases h | _ => rfl

theorem isAction_test {p : Prim} (h : isTestP p = true) : Prim.isAction p = false := by
  cases p with | pathOut | lit | printf | delete | exec | execMulti => cases h | _ => rfl

/-- what holds of the `+` primaries one by one holds of `M.multis` -/
theorem multis_all {q : Prim → Prop} {S : Nat × Bool × Bool × Bytes × List Bytes → Prop} {m : M Prim}
    (h : m.AllP q) (hq : ∀ p, q p → ∀ x ∈ multiOf p, S x) : ∀ x ∈ M.multis m, S x := by
  rw [multis_eq]
  intro x hx
  obtain ⟨p, hp, hxp⟩ := List.mem_flatMap.1 hx
  exact hq p ((allP_iff q m).1 h p hp) x hxp

theorem multis_nil {q : Prim → Prop} {m : M Prim} (h : m.AllP q) (hq : ∀ p, q p → multiOf p = []) : M.multis m = [] := by
  rw [multis_eq, List.flatMap_eq_nil_iff]
  exact fun p hp => hq p ((allP_iff q m).1 h p hp)

theorem multis_quiet {m : M Prim} (h : m.AllP fun p => quiet p = true) : M.multis m = [] :=
  multis_nil h fun _ => multiOf_quiet

/-! ### one evaluation, kind by kind -/

theorem sem_testP (start : Bytes) (v : Visit Attr) (t : Prim) (ht : isTestP t = true) (s : ES) :
    sem start v t s = ((sem start v t es0).1, s) := by
  cases t with
  | pathOut | lit | printf | prune | quit | delete | exec | execMulti => cases ht
  | _ => rfl

theorem sem_outP (start : Bytes) (v : Visit Attr) (a : Prim) (ha : isOutP a = true) (s : ES) :
    sem start v a s = (true, { s with gs := { s.gs with out := s.gs.out ++ ((outOf start v a).getD []) } }) := by
  cases a with
  | pathOut | lit | printf => simp [sem, outOf, List.append_assoc]
  | _ => cases ha

/-- when the removal succeeds -/
def removable (v : Visit Attr) (path : Bytes) (g : GS) : Bool :=
  !g.deleted.contains path &&
  (match v.ent.node with
   | .dir _ false _ _ kids => kids.all fun k => g.deleted.contains (pushName path k.name)
   | _ => true)

theorem sem_delete_eq (start : Bytes) (v : Visit Attr) (s : ES) :
    sem start v .delete s =
      (if pathOf start v.ent.rpath == [46] then (true, s)
       else if removable v (pathOf start v.ent.rpath) s.gs then
         (true, { s with gs := { s.gs with deleted := s.gs.deleted ++ [pathOf start v.ent.rpath] } })
       else (false, { s with exit := 1, gs := { s.gs with mdiags := s.gs.mdiags + 1 } })) := rfl

/-- the command `-exec`/`-execdir CMD ARGS ;` runs for an entry -/
def eventOf (dir : Bool) (cmd : Bytes) (tmpl : List Bytes) (start : Bytes) (v : Visit Attr) : ExecEvent :=
  ⟨cmd :: tmpl.map (substArg (execPath dir (pathOf start v.ent.rpath))), execCwd dir (pathOf start v.ent.rpath)⟩

theorem sem_exec_eq (start : Bytes) (v : Visit Attr) (dir ok : Bool) (cmd : Bytes) (tmpl : List Bytes) (s : ES) :
    sem start v (.exec dir ok cmd tmpl) s =
      (ok && s.gs.script.headD 0 == 0,
       { s with gs := { s.gs with execs := s.gs.execs ++ (if ok then [eventOf dir cmd tmpl start v] else []),
                                   script := if ok then s.gs.script.tail else s.gs.script } }) :=
  Prod.ext (by cases ok <;> simp [sem, spawn_fst]) (by simp [sem, spawn_snd, eventOf])

/-- `-exec … +` is always true and changes nothing but the commands started, the batches (and the
    panic mark) and find's exit code -/
theorem sem_multi_frame (start : Bytes) (v : Visit Attr) (id : Nat) (dir ok : Bool) (cmd : Bytes) (fixed : List Bytes) (s : ES) :
    ∃ g' e', sem start v (.execMulti id dir ok cmd fixed) s = (true, { s with gs := g', exit := e' }) ∧
      g'.out = s.gs.out ∧ g'.deleted = s.gs.deleted ∧ g'.budget = s.gs.budget := by
  simp only [sem]
  (repeat' split) <;> exact ⟨_, _, rfl, by simp [setPending, runBatch, spawn_snd]⟩

/-- what a primary leaves alone: the budget always; the prune mark unless it is `-prune`; the started
    commands and the open batches unless it runs commands; the removed set unless it is `-delete` -/
theorem sem_frame (start : Bytes) (v : Visit Attr) (p : Prim) (s : ES) :
    (sem start v p s).2.gs.budget = s.gs.budget ∧
    (notPrune p = true → (sem start v p s).2.prune = s.prune) ∧
    (quiet p = true → (sem start v p s).2.gs.execs = s.gs.execs ∧ (sem start v p s).2.gs.pending = s.gs.pending) ∧
    (p ≠ .delete → (sem start v p s).2.gs.deleted = s.gs.deleted) := by
  by_cases hk : (isTestP p || isOutP p) = true
  · -- a test leaves the state alone, an action that only writes touches `out`
    rcases Bool.or_eq_true_iff.1 hk with h | h
    · rw [sem_testP start v p h]; exact ⟨rfl, fun _ => rfl, fun _ => ⟨rfl, rfl⟩, fun _ => rfl⟩
    · rw [sem_outP start v p h]; exact ⟨rfl, fun _ => rfl, fun _ => ⟨rfl, rfl⟩, fun _ => rfl⟩
  cases p with
  | delete =>
    rw [sem_delete_eq]
    split
    · exact ⟨rfl, fun _ => rfl, fun _ => ⟨rfl, rfl⟩, fun h => absurd rfl h⟩
    · split <;> exact ⟨rfl, fun _ => rfl, fun _ => ⟨rfl, rfl⟩, fun h => absurd rfl h⟩
  | prune => simp only [sem]; split <;> exact ⟨rfl, nofun, fun _ => ⟨rfl, rfl⟩, fun _ => rfl⟩
  | quit => exact ⟨rfl, fun _ => rfl, fun _ => ⟨rfl, rfl⟩, fun _ => rfl⟩
  | exec dir ok cmd tmpl => rw [sem_exec_eq]; exact ⟨rfl, fun _ => rfl, nofun, fun _ => rfl⟩
  | execMulti id dir ok cmd fixed =>
    obtain ⟨_, _, h, _, hd, hb⟩ := sem_multi_frame start v id dir ok cmd fixed s
    rw [h]; exact ⟨hb, fun _ => rfl, nofun, fun _ => hd⟩
  | _ => exact absurd rfl hk  -- the other constructors are tests or actions that only write

theorem eval_keeps_prune (m : M Prim) (hall : m.AllP (fun p => notPrune p = true)) (start : Bytes) (v : Visit Attr) (s : ES) :
    (M.eval (sem start v) (·.quit) m s).2.prune = s.prune :=
  relW_M (sem start v) (·.quit) (fun p => notPrune p = true) (fun _ => 0) (fun a b _ => b.prune = a.prune)
    (fun _ => rfl) (fun _ _ _ _ _ h1 h2 => h2.trans h1) (fun _ _ _ _ h _ => h)
    (fun p hp s => (sem_frame start v p s).2.1 hp) m hall s

/-! ### expressions of tests, and `EXPR ACTION` -/

/-- an expression of tests -/
def TestsOnly (m : M Prim) : Prop := m.AllP (fun p => isTestP p = true)

/-- the truth of an expression of tests on an entry -/
def truthM (start : Bytes) (v : Visit Attr) (mt : M Prim) : Bool :=
  (M.eval (sem start v) (·.quit) mt es0).1

theorem eval_tests (start : Bytes) (v : Visit Attr) (mt : M Prim) (ht : TestsOnly mt) (s : ES) (hs : s.quit = false) :
    M.eval (sem start v) (·.quit) mt s = (truthM start v mt, s) := by
  have := pure_M (sem start v) (·.quit) (fun p => isTestP p = true)
    (fun p hp s s' => by rw [sem_testP start v p hp s, sem_testP start v p hp s']; exact ⟨rfl, rfl⟩) mt ht s es0 hs rfl
  exact Prod.ext this.2 this.1

/-- `EXPR ACTION`: the action is evaluated exactly on the entries on which the tests are true -/
theorem eval_guarded (start : Bytes) (v : Visit Attr) (mt : M Prim) (ht : TestsOnly mt) (a : Prim) (s : ES) (hs : s.quit = false) :
    M.eval (sem start v) (·.quit) (.and [mt, .prim a]) s = if truthM start v mt then sem start v a s else (false, s) := by
  simp only [M.eval, evalAnd, eval_tests start v mt ht s hs, hs]
  cases truthM start v mt
  · rfl
  · generalize sem start v a s = r
    obtain ⟨b, t⟩ := r
    cases b <;> simp

theorem allP_guarded {q : Prim → Prop} {mt : M Prim} {a : Prim} (ht : TestsOnly mt) (hq : ∀ p, isTestP p = true → q p) (ha : q a) :
    (M.and [mt, .prim a]).AllP q :=
  ⟨ht.imp hq, ha, trivial⟩

theorem multis_guarded {mt : M Prim} (ht : TestsOnly mt) (a : Prim) : M.multis (.and [mt, .prim a]) = multiOf a := by
  show M.multis mt ++ (M.multis (.prim a) ++ []) = multiOf a
  rw [multis_quiet (ht.imp fun _ => quiet_of_test)]
  simp [multiOf]

end FuModel.Find.Run
