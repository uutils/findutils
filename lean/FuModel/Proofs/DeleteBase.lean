import FuModel.Proofs.RunLift

/-!
# C10 — -delete removes exactly the matched entries and nothing else

Model: `Find/Run.lean`, primary `.delete` (`DeleteMatcher`): the set of removed paths is part of
the run's state; a real directory can be removed only if all its entries have been removed before
it (which post-order makes possible: C03), anything else — symbolic links included, whatever they
resolve to — is unlinked itself.  That -delete is evaluated exactly on the entries for which the
tests before it are true, in post-order, is C01 + C03 for this primary.
-/
namespace FuModel.Find.Run
open FuModel.Find.Walk FuModel.Find.Expr

/-- `-delete` forces post-order while the expression is parsed. -/
theorem C10_implies_depth (c : Config) : (applyArg c .delete).depthFirst = true := rfl

/-- One evaluation of `-delete`: the starting point `.` is skipped (true); otherwise, if the entry
    can be removed, exactly its own path joins the removed set and the action is true; if not, the
    action is false, find's exit code becomes 1, one diagnostic is counted and nothing is removed.
    In every case nothing else of the state changes and the walk is not stopped. -/
theorem C10_delete_step (start : Bytes) (v : Visit Attr) (s : ES) :
    let path := pathOf start v.ent.rpath
    let r := sem start v .delete s
    (path = [46] → r = (true, s)) ∧
    (path ≠ [46] → removable v path s.gs = true →
        r = (true, { s with gs := { s.gs with deleted := s.gs.deleted ++ [path] } })) ∧
    (path ≠ [46] → removable v path s.gs = false →
        r = (false, { s with exit := 1, gs := { s.gs with mdiags := s.gs.mdiags + 1 } })) ∧
    r.2.quit = s.quit ∧ r.2.prune = s.prune ∧ r.2.gs.out = s.gs.out := by
  intro path r
  have hr : r = if path == [46] then _ else if removable v path s.gs then _ else _ := sem_delete_eq start v s
  clear_value r
  by_cases hp : path = [46]
  · rw [if_pos (beq_iff_eq.2 hp)] at hr
    subst hr
    exact ⟨fun _ => rfl, fun h => absurd hp h, fun h => absurd hp h, rfl, rfl, rfl⟩
  · rw [if_neg (mt beq_iff_eq.1 hp)] at hr
    cases hb : removable v path s.gs <;> rw [hb] at hr <;> subst hr
    · exact ⟨fun h => absurd h hp, nofun, fun _ _ => rfl, rfl, rfl, rfl⟩
    · exact ⟨fun h => absurd h hp, fun _ _ => rfl, nofun, rfl, rfl, rfl⟩

/-- A symbolic link — also one that resolves to a directory, followed or not — and every other
    non-directory is removed itself, whatever it points to and whatever has been removed before
    (unless the same path was already removed). -/
theorem C10_links_removed_themselves (v : Visit Attr) (path : Bytes) (g : GS)
    (h : ∀ nm r a kids, v.ent.node ≠ .dir nm false r a kids) (hn : g.deleted.contains path = false) :
    removable v path g = true := by
  unfold removable
  rw [hn]
  cases hnode : v.ent.node with
  | leaf nm k a => rfl
  | dir nm l r a kids =>
    cases l
    · exact absurd hnode (h nm r a kids)
    · rfl

/-- A real directory goes only when every one of its entries has been removed before it. -/
theorem C10_dir_only_when_empty (v : Visit Attr) (path : Bytes) (g : GS) (nm : Name) (r : Bool) (a : Attr)
    (kids : List (Node Attr)) (hd : v.ent.node = .dir nm false r a kids) :
    removable v path g = true ↔
      g.deleted.contains path = false ∧ ∀ k ∈ kids, g.deleted.contains (pushName path k.name) = true := by
  unfold removable
  simp only [hd, Bool.and_eq_true, Bool.not_eq_true', List.all_eq_true]

theorem setPending_deleted (g : GS) (id : Nat) (b : Option Batch) : (setPending g id b).deleted = g.deleted := rfl

/-- from `a` to `b` the entry's path was removed at most once, and only if it had not been removed before -/
def DelStep (path : Bytes) (a b : ES) : Prop :=
  b.gs.deleted = a.gs.deleted ∨ (b.gs.deleted = a.gs.deleted ++ [path] ∧ a.gs.deleted.contains path = false)

/-- what one primary does to the removed set: nothing, or (`-delete`) the entry's own path — not
    removed before — is appended -/
theorem sem_deleted_fresh (start : Bytes) (v : Visit Attr) (p : Prim) (s : ES) :
    DelStep (pathOf start v.ent.rpath) s (sem start v p s).2 := by
  by_cases hp : p = .delete
  · subst hp
    rw [sem_delete_eq]
    split
    · exact .inl rfl
    · split
      · rename_i hr
        exact .inr ⟨rfl, by simpa using (Bool.and_eq_true_iff.1 hr).1⟩
      · exact .inl rfl
  · exact .inl ((sem_frame start v p s).2.2.2 hp)

theorem eval_delstep (m : M Prim) (start : Bytes) (v : Visit Attr) (s : ES) :
    DelStep (pathOf start v.ent.rpath) s (M.eval (sem start v) (·.quit) m s).2 := by
  refine rel_M (sem start v) (·.quit) (DelStep (pathOf start v.ent.rpath)) (fun s => Or.inl rfl) ?_
    (fun p s => sem_deleted_fresh start v p s) m s
  rintro a b c (h1 | ⟨h1, n1⟩) (h2 | ⟨h2, n2⟩)
  · exact .inl (h2.trans h1)
  · exact .inr ⟨h2.trans (h1 ▸ rfl), h1 ▸ n2⟩
  · exact .inr ⟨h2.trans h1, n1⟩
  · -- a second removal would find the path removed already
    simp [h1] at n2

/-- No primary other than `-delete` removes anything, and `-delete` removes nothing but the entry
    it is evaluated on: after evaluating a whole expression on an entry, every removed path was
    removed before or is that entry's own path — which starts with its starting point (C18), so
    nothing outside the starting points is touched, and a link's target never is. -/
theorem C10_only_this_entry (m : M Prim) (start : Bytes) (v : Visit Attr) (s : ES) :
    ∀ x ∈ (M.eval (sem start v) (·.quit) m s).2.gs.deleted,
      x ∈ s.gs.deleted ∨ x = pathOf start v.ent.rpath := by
  intro x hx
  rcases eval_delstep m start v s with h | ⟨h, -⟩ <;> rw [h] at hx
  · exact Or.inl hx
  · simpa using hx

example :
    let v : Visit Attr := ⟨⟨[[98]], 1, .dir [98] false true { lty := 'd', sty := 'd' } [.leaf [99] .plain { lty := 'f', sty := 'f' }], false⟩, false, .never⟩
    (sem [116] v .delete ⟨{}, false, false, 0⟩).1 = false ∧
    (sem [116] v .delete ⟨{ deleted := [[116, 47, 98, 47, 99]] }, false, false, 0⟩).1 = true := by decide

/-- the bookkeeping never touches the removed set -/
theorem book_deleted (m : M Prim) : Book m (fun _ => True) GS.deleted :=
  ⟨fun _ _ _ => ⟨trivial, rfl⟩, fun _ _ _ _ _ _ _ => ⟨trivial, by simp [flushOne, setPending, runBatch, spawn_snd]⟩⟩

/-- one entry, with `process_dir`'s bookkeeping around the expression: every path in the removed
    set afterwards was there before or is this entry's own path -/
theorem evalEntry_deleted (m : M Prim) (start : Bytes) (v : Visit Attr) (g : GS) :
    ∀ x ∈ (evalEntry m start v g).2.deleted, x ∈ g.deleted ∨ x = pathOf start v.ent.rpath := by
  intro x hx
  rw [evalEntry_eq] at hx
  have := C10_only_this_entry m start v _ x hx
  rwa [((book_deleted m).enter _ g trivial).2] at this

/-- **Over a whole starting point** (the real walk, post-order as `-delete` forces it): whatever the
    expression and the tree, every path removed during the walk is the path of an entry of this
    starting point — `start` followed by names — or was removed before.  Nothing outside the
    starting points is ever removed, and a link's target never is (its path is not below `start`). -/
theorem C10_whole_walk (c : RefCfg) (m : M Prim) (start : Bytes) (root : Node Attr) (g : GS)
    (hpost : c.depthFirst = true) :
    ∀ x ∈ (processRoot c (evalEntry m start) root g).st.deleted, x ∈ g.deleted ∨ ∃ rp, x = pathOf start rp :=
  (processRoot_ran c (evalEntry m start) (I := fun _ => True) (W := True)
    (T := fun a b _ => ∀ x ∈ b.deleted, x ∈ a.deleted ∨ ∃ rp, x = pathOf start rp)
    ⟨fun _ _ hx => Or.inl hx, fun _ _ _ _ _ hab hbc x hx => (hbc x hx).elim (hab x) Or.inr, fun _ _ _ _ _ h => h,
     fun v s _ _ => ⟨trivial, fun x hx => (evalEntry_deleted m start v s x hx).imp_right fun h => ⟨_, h⟩, fun _ => trivial⟩⟩
    root (fun h => by rw [hpost] at h; cases h) g trivial).2.1

end FuModel.Find.Run
