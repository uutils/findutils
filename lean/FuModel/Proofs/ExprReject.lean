import FuModel.Find.Expr

/-!
# What the tree builder refuses (C11), for every context

`Rejects r` = the builder answers with an error.  `run_prefix` lifts "refused in every state" from
a suffix of the token string to the whole string: the builder reads left to right and never
recovers from an error, so a fragment that cannot be continued in any state cannot be rescued by
what stands before it.
-/
namespace FuModel.Find.Expr
variable {P : Type}

def Rejects (r : Except Err (M P)) : Prop := ∃ e, r = .error e

theorem rejects_error (e : Err) : Rejects (.error e : Except Err (M P)) := ⟨e, rfl⟩

theorem not_ok_of_rejects {r : Except Err (M P)} (h : Rejects r) (m : M P) : r ≠ .ok m := by
  obtain ⟨e, rfl⟩ := h; intro h; cases h

theorem rejects_of_not_ok {r : Except Err (M P)} (h : ∀ m, r ≠ .ok m) : Rejects r :=
  match r, h with
  | .error e, _ => rejects_error e
  | .ok m, h => absurd rfl (h m)

/-- the four operator tokens; `isBinary` = all but `!` -/
def Tok.isOp : Tok P → Bool
  | .bang | .and_ | .or_ | .comma => true
  | _ => false

def Tok.isBinary : Tok P → Bool
  | .and_ | .or_ | .comma => true
  | _ => false

theorem Tok.isOp_of_isBinary {op : Tok P} (h : op.isBinary = true) : op.isOp = true := by cases op <;> trivial

/-- the builder after an operator -/
def St.after (s : St P) : Tok P → St P
  | .bang => { s with inv := !s.inv, pend := true }
  | .or_ => { s with cur := [], ands := s.cur :: s.ands, pend := true }
  | .comma => { s with cur := [], ands := [], ors := (s.cur :: s.ands) :: s.ors, pend := true }
  | _ => { s with pend := true }

theorem St.after_pend (s : St P) (op : Tok P) : (s.after op).pend = true := by cases op <;> rfl

/-- every operator asks whether an operand follows, the binary ones also whether one has just been finished -/
theorem run_op_eq (op : Tok P) (h : op.isOp = true) (rest : List (Tok P)) (stack : List (St P)) (s : St P) (f : Bool) :
    run (op :: rest) stack s f =
      if !moreExprs rest then .error .needExprAfter
      else if op.isBinary && (s.cur.isEmpty || s.pend) then .error .nothingBefore
      else run rest stack (s.after op) false :=
  match op, h with
  | .bang, _ => by rw [run]; cases moreExprs rest <;> rfl
  | .and_, _ | .or_, _ | .comma, _ => by rw [run]; rfl

theorem run_binary_go (op : Tok P) (h : op.isBinary = true) (rest : List (Tok P)) (stack : List (St P)) (s : St P) (f : Bool)
    (hm : moreExprs rest = true) (hc : s.cur ≠ []) (hp : s.pend = false) :
    run (op :: rest) stack s f = run rest stack (s.after op) false := by
  rw [run_op_eq op (Tok.isOp_of_isBinary h), h, hm, hp, List.isEmpty_eq_false_iff.mpr hc]; rfl

/-- a binary operator where no operand has just been finished -/
theorem run_binary_reject (op : Tok P) (h : op.isBinary = true) (post : List (Tok P)) (stack : List (St P)) (s : St P)
    (f : Bool) (hs : s.cur = [] ∨ s.pend = true) : Rejects (run (op :: post) stack s f) := by
  rw [run_op_eq op (Tok.isOp_of_isBinary h), h]
  have : (s.cur.isEmpty || s.pend) = true := by rcases hs with h | h <;> simp [h]
  rw [this]; split <;> exact rejects_error _

/-- an operator or `!` is refused, or the start of an operand follows it (and, for a binary one, an operand has just
    been finished) and the builder goes on, waiting for that operand -/
theorem run_op (op : Tok P) (h : op.isOp = true) (post : List (Tok P)) (stack : List (St P)) (s : St P) (f : Bool) :
    Rejects (run (op :: post) stack s f) ∨
      moreExprs post = true ∧ (op.isBinary = true → s.cur ≠ [] ∧ s.pend = false) ∧
        run (op :: post) stack s f = run post stack (s.after op) false := by
  rw [run_op_eq op h]
  split
  · exact .inl (rejects_error _)
  · rename_i hm
    split
    · exact .inl (rejects_error _)
    · rename_i hb
      exact .inr ⟨by simpa using hm, fun hbin => by simpa [hbin] using hb, rfl⟩

theorem run_op_ok {op : Tok P} (h : op.isOp = true) {rest : List (Tok P)} {stack : List (St P)} {s : St P} {f : Bool}
    {m : M P} (hr : run (op :: rest) stack s f = .ok m) :
    moreExprs rest = true ∧ (op.isBinary = true → s.cur ≠ [] ∧ s.pend = false) ∧ run rest stack (s.after op) false = .ok m := by
  rcases run_op op h rest stack s f with ⟨e, he⟩ | ⟨hm, hb, e⟩
  · rw [he] at hr; cases hr
  · exact ⟨hm, hb, e ▸ hr⟩

/-- a token either ends the run with an error or hands the rest to the builder in some state -/
theorem run_cons (t : Tok P) (rest : List (Tok P)) (stack : List (St P)) (s : St P) (f : Bool) :
    Rejects (run (t :: rest) stack s f) ∨ ∃ stack' s' f', run (t :: rest) stack s f = run rest stack' s' f' :=
  match t with
  | .prim _ | .lp => .inr ⟨_, _, _, rfl⟩
  | .rp =>
    match stack, f with
    | [], _ | _ :: _, true => .inl (rejects_error _)
    | _ :: _, false => .inr ⟨_, _, _, rfl⟩
  | .bang | .and_ | .or_ | .comma => (run_op _ rfl rest stack s f).imp id fun ⟨_, _, e⟩ => ⟨_, _, _, e⟩

/-- a fragment refused in every builder state is refused after every prefix -/
theorem run_prefix (suf : List (Tok P)) (h : ∀ stack s f, Rejects (run suf stack s f)) :
    ∀ (pre : List (Tok P)) stack s f, Rejects (run (pre ++ suf) stack s f) := by
  intro pre
  induction pre with
  | nil => exact h
  | cons t pre ih =>
    intro stack s f
    rcases run_cons t (pre ++ suf) stack s f with hr | ⟨_, _, _, e⟩
    · exact hr
    · rw [List.cons_append, e]; exact ih _ _ _

/-- an operator (or `!`) that no operand follows: as the last token, or directly before `)` -/
theorem run_op_no_operand (op : Tok P) (h : op.isOp = true) (post : List (Tok P)) (hm : moreExprs post = false)
    (stack : List (St P)) (s : St P) (f : Bool) : Rejects (run (op :: post) stack s f) := by
  rw [run_op_eq op h, hm]; exact rejects_error _

/-- a binary operator directly after an operator or `!` -/
theorem run_op_op (op1 op2 : Tok P) (h1 : op1.isOp = true) (h2 : op2.isBinary = true) (post : List (Tok P))
    (stack : List (St P)) (s : St P) (f : Bool) :
    Rejects (run (op1 :: op2 :: post) stack s f) := by
  rcases run_op op1 h1 (op2 :: post) stack s f with hr | ⟨_, _, e⟩
  · exact hr
  · rw [e]; exact run_binary_reject op2 h2 post stack _ false (.inr (s.after_pend op1))

/-- a binary operator directly after `(` -/
theorem run_lp_op (op : Tok P) (h : op.isBinary = true) (post : List (Tok P)) (stack : List (St P)) (s : St P) (f : Bool) :
    Rejects (run (.lp :: op :: post) stack s f) :=
  run_binary_reject op h post (s :: stack) St.empty true (.inl rfl)

/-- `( )` -/
theorem run_lp_rp (post : List (Tok P)) (stack : List (St P)) (s : St P) (f : Bool) :
    Rejects (run (.lp :: .rp :: post) stack s f) :=
  rejects_error .emptyParens

/-- depth never negative, zero at the end -/
def balanced : Nat → List (Tok P) → Bool
  | d, [] => d == 0
  | d, .lp :: ts => balanced (d + 1) ts
  | 0, .rp :: _ => false
  | d + 1, .rp :: ts => balanced d ts
  | d, _ :: ts => balanced d ts

theorem run_balanced (ts : List (Tok P)) : ∀ (stack : List (St P)) (s : St P) (f : Bool) (m : M P),
    run ts stack s f = .ok m → balanced stack.length ts = true := by
  induction ts with
  | nil =>
    intro stack s f m h
    cases stack with
    | nil => rfl
    | cons a b => cases h
  | cons t ts ih =>
    intro stack s f m h
    cases t with
    | prim | lp => exact ih _ _ _ _ h
    | bang | and_ | or_ | comma => exact ih _ _ _ _ (run_op_ok rfl h).2.2
    | rp =>
      match stack, f with
      | [], _ | _ :: _, true => cases h
      | _ :: _, false => exact ih _ _ _ _ h

end FuModel.Find.Expr
