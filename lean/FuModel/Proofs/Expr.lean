import FuModel.Spec.ExprRef
import FuModel.Proofs.ExprReject

/-!
# The builder on a sentence of the grammar (C01)

`run` on the rendering of a syntax tree is followed group by group: `pushX`, `stA`, `stO`, `stL` are the builder's state
after a factor, an and-group, an or-group and a comma-list (`run_F` … `run_L`, one induction over the syntax), and the
state after a whole list builds the tree the grammar prescribes (`stL_build`).
-/
namespace FuModel.Find.Expr
variable {P : Type}

def pushX (s : St P) (x : X P) : St P :=
  { s with cur := treeF s.inv x :: s.cur, inv := false, pend := false }

def orStep (s : St P) : St P := { s with cur := [], ands := s.cur :: s.ands, pend := true }

def commaStep (s : St P) : St P :=
  { s with cur := [], ands := [], ors := (s.cur :: s.ands) :: s.ors, pend := true }

def stA (s : St P) (g : List (X P)) : St P := g.foldl pushX s

def stO (s : St P) : List (List (X P)) → St P
  | [] => s
  | [g] => stA s g
  | g :: gs => stO (orStep (stA s g)) gs

def stL (s : St P) : List (List (List (X P))) → St P
  | [] => s
  | [o] => stO s o
  | o :: os => stL (commaStep (stO s o)) os

/-! `renderO`/`renderL` and `wfO`/`wfL` recurse alike over a non-empty list: one member, or a member, a separator and
the rest. -/

theorem all_of_cons2 {α : Type} {f : List α → Bool} {p : α → Bool} (h0 : f [] = false) (h1 : ∀ x, f [x] = p x)
    (h2 : ∀ x y ys, f (x :: y :: ys) = (p x && f (y :: ys))) (l : List α) : f l = (!l.isEmpty && l.all p) := by
  induction l with
  | nil => exact h0
  | cons x xs ih =>
    cases xs with
    | nil => simp [h1]
    | cons y ys => rw [h2, ih]; rfl

theorem snoc_of_cons2 {α β : Type} {f : List α → List β} {r : α → List β} {sep : β} (h1 : ∀ x, f [x] = r x)
    (h2 : ∀ x y ys, f (x :: y :: ys) = r x ++ sep :: f (y :: ys)) (as : List α) (c : α) :
    f (as ++ [c]) = as.flatMap (fun a => r a ++ [sep]) ++ r c := by
  induction as with
  | nil => exact h1 c
  | cons a as ih =>
    cases as with
    | nil => simp [h2, h1]
    | cons a' as => rw [List.cons_append, List.cons_append, h2, ← List.cons_append, ih]; simp

theorem renderO_cons2 (g g' : List (X P)) (gs : List (List (X P))) :
    renderO (g :: g' :: gs) = renderA g ++ .or_ :: renderO (g' :: gs) := rfl
theorem renderL_cons2 (o o' : List (List (X P))) (os : List (List (List (X P)))) :
    renderL (o :: o' :: os) = renderO o ++ .comma :: renderL (o' :: os) := rfl

theorem wfO_eq (o : List (List (X P))) : wfO o = (!o.isEmpty && o.all wfA) :=
  all_of_cons2 rfl (fun _ => rfl) (fun _ _ _ => rfl) o
theorem wfL_eq (l : List (List (List (X P)))) : wfL l = (!l.isEmpty && l.all wfO) :=
  all_of_cons2 rfl (fun _ => rfl) (fun _ _ _ => rfl) l

/-- a factor of an and-group after the first: the `-a` in front of it is optional -/
def wfItem : X P → Bool
  | .a z => wfF z
  | y => wfF y

theorem wfRest_cons (y : X P) (xs : List (X P)) : wfRest (y :: xs) = (wfItem y && wfRest xs) := by cases y <;> rfl

theorem wfRest_eq (xs : List (X P)) : wfRest xs = xs.all wfItem := by
  induction xs with
  | nil => rfl
  | cons y xs ih => rw [wfRest_cons, ih]; rfl

/-! ### a rendered expression starts with a primary, `!` or `(` -/

theorem more_F (x : X P) (h : wfF x = true) (rest : List (Tok P)) : moreExprs (renderF x ++ rest) = true := by
  cases x with
  | a x => cases h
  | _ => rfl

theorem more_A (g : List (X P)) (h : wfA g = true) (rest : List (Tok P)) : moreExprs (renderA g ++ rest) = true := by
  cases g with
  | nil => cases h
  | cons x xs =>
    rw [renderA, List.append_assoc]
    exact more_F x (Bool.and_eq_true_iff.1 h).1 _

theorem more_O (o : List (List (X P))) (h : wfO o = true) (rest : List (Tok P)) : moreExprs (renderO o ++ rest) = true := by
  match o with
  | [g] => exact more_A g h rest
  | g :: g' :: gs => rw [renderO_cons2, List.append_assoc]; exact more_A g (Bool.and_eq_true_iff.1 h).1 _

theorem more_L (l : List (List (List (X P)))) (h : wfL l = true) (rest : List (Tok P)) : moreExprs (renderL l ++ rest) = true := by
  match l with
  | [o] => exact more_O o h rest
  | o :: o' :: os => rw [renderL_cons2, List.append_assoc]; exact more_O o (Bool.and_eq_true_iff.1 h).1 _

theorem pushX_pend (s : St P) (x : X P) : (pushX s x).pend = false := rfl
theorem pushX_inv (s : St P) (x : X P) : (pushX s x).inv = false := rfl

/-- and-group in builder form -/
def fA (g : List (X P)) : List (M P) := (g.map (treeF false)).reverse
/-- or-group in builder form: newest and-group first -/
def fO (o : List (List (X P))) : List (List (M P)) := (o.map fA).reverse

/-- once a factor has been pushed, the further ones only extend `cur` -/
theorem foldl_pushX (xs : List (X P)) (s : St P) (hi : s.inv = false) (hp : s.pend = false) :
    xs.foldl pushX s = { s with cur := fA xs ++ s.cur } := by
  induction xs generalizing s with
  | nil => rfl
  | cons x xs ih => rw [List.foldl_cons, ih _ rfl rfl]; simp [pushX, fA, hi, hp]

theorem stA_cons (s : St P) (x : X P) (xs : List (X P)) :
    stA s (x :: xs) = ⟨fA xs ++ treeF s.inv x :: s.cur, s.ands, s.ors, false, false⟩ :=
  foldl_pushX xs (pushX s x) rfl rfl

theorem stA_ok (g : List (X P)) (h : wfA g = true) (s : St P) : (stA s g).cur ≠ [] ∧ (stA s g).pend = false := by
  match g with
  | x :: xs => rw [stA_cons]; exact ⟨by simp, rfl⟩

theorem stO_ok (o : List (List (X P))) (h : wfO o = true) (s : St P) : (stO s o).cur ≠ [] ∧ (stO s o).pend = false := by
  induction o generalizing s with
  | nil => cases h
  | cons g gs ih =>
    cases gs with
    | nil => exact stA_ok g h s
    | cons g' gs => exact ih (Bool.and_eq_true_iff.1 h).2 _

/-! The builder between two groups has an empty `cur` and no `!` pending; from such a state the next group, once closed,
leaves one again. -/

theorem orStep_stA (g : List (X P)) (h : wfA g = true) (a : List (List (M P))) (r : List (List (List (M P)))) (p : Bool) :
    orStep (stA ⟨[], a, r, false, p⟩ g) = ⟨[], fA g :: a, r, false, true⟩ := by
  match g with
  | x :: xs => rw [stA_cons]; simp [orStep, fA]

theorem orStep_stO (o : List (List (X P))) (h : wfO o = true) (a : List (List (M P))) (r : List (List (List (M P)))) (p : Bool) :
    orStep (stO ⟨[], a, r, false, p⟩ o) = ⟨[], fO o ++ a, r, false, true⟩ := by
  induction o generalizing a p with
  | nil => cases h
  | cons g gs ih =>
    cases gs with
    | nil => exact orStep_stA g h a r p
    | cons g' gs =>
      have h := Bool.and_eq_true_iff.1 h
      rw [show stO _ (g :: g' :: gs) = stO (orStep (stA _ g)) (g' :: gs) from rfl, orStep_stA g h.1, ih h.2]
      simp [fO]

theorem commaStep_eq (t : St P) : commaStep t = ⟨[], [], (orStep t).ands :: (orStep t).ors, (orStep t).inv, true⟩ := rfl

theorem commaStep_stL (l : List (List (List (X P)))) (h : wfL l = true) (r : List (List (List (M P)))) (p : Bool) :
    commaStep (stL ⟨[], [], r, false, p⟩ l) = ⟨[], [], (l.map fO).reverse ++ r, false, true⟩ := by
  induction l generalizing r p with
  | nil => cases h
  | cons o os ih =>
    cases os with
    | nil => rw [show stL _ [o] = stO _ o from rfl, commaStep_eq, orStep_stO o h]; simp
    | cons o' os =>
      have h := Bool.and_eq_true_iff.1 h
      rw [show stL _ (o :: o' :: os) = stL (commaStep (stO _ o)) (o' :: os) from rfl, commaStep_eq (stO _ o),
        orStep_stO o h.1, ih h.2]
      simp

theorem collapse_two (mk : List (M P) → M P) (ms : List (M P)) (h : 2 ≤ ms.length) : collapse mk ms = mk ms := by
  match ms, h with
  | _ :: _ :: _, _ => rfl

theorem buildAnd_eq (cur : List (M P)) : buildAnd cur = collapse .and cur.reverse := by
  match cur with
  | [] | [m] => rfl
  | a :: b :: t => rw [collapse_two _ _ (by simp)]; rfl

def GL : List (List (M P)) → M P
  | [] => .and []
  | c :: a => buildOr c a

theorem buildOr_eq (cur : List (M P)) (ands : List (List (M P))) :
    buildOr cur ands = collapse .or ((cur :: ands).reverse.map buildAnd) := by
  cases ands with
  | nil => rfl
  | cons x xs => rw [collapse_two _ _ (by simp)]; rfl

theorem buildList_eq (cur : List (M P)) (ands : List (List (M P))) (ors : List (List (List (M P)))) :
    buildList cur ands ors = collapse .list (((cur :: ands) :: ors).reverse.map GL) := by
  cases ors with
  | nil => rfl
  | cons x xs => rw [collapse_two _ _ (by simp)]; rfl

theorem treesA_eq (g : List (X P)) : treesA g = g.map (treeF false) := by
  induction g with
  | nil => rfl
  | cons x xs ih => rw [treesA, ih]; rfl

theorem treesO_eq (o : List (List (X P))) : treesO o = o.map (fun g => collapse .and (treesA g)) := by
  induction o with
  | nil => rfl
  | cons x xs ih => rw [treesO, ih]; rfl

theorem treesL_eq (l : List (List (List (X P)))) : treesL l = l.map (fun o => collapse .or (treesO o)) := by
  induction l with
  | nil => rfl
  | cons x xs ih => rw [treesL, ih]; rfl

theorem GL_fO (o : List (List (X P))) (h : wfO o = true) : GL (fO o) = collapse .or (treesO o) := by
  match hf : fO o with
  | [] => simp [fO] at hf; subst hf; cases h
  | c :: a =>
    rw [GL, buildOr_eq, ← hf, treesO_eq]
    simp [fO, fA, Function.comp_def, buildAnd_eq, treesA_eq]

theorem stL_build (l : List (List (List (X P)))) (h : wfL l = true) : (stL St.empty l).build = treeL l := by
  have hs : (commaStep (stL St.empty l)).ors = (l.map fO).reverse ++ [] := congrArg St.ors (commaStep_stL l h [] false)
  rw [St.build, buildList_eq, show _ :: _ = (commaStep (stL St.empty l)).ors from rfl, hs, treeL, treesL_eq]
  simp only [List.append_nil, List.reverse_reverse, List.map_map]
  have hall := List.all_eq_true.1 (Bool.and_eq_true_iff.1 (wfL_eq l ▸ h)).2
  exact congrArg _ (List.map_congr_left fun o ho => GL_fO o (hall o ho))

mutual
theorem run_F (x : X P) (h : wfF x = true) (rest : List (Tok P)) (stack : List (St P)) (s : St P) (f : Bool) :
    run (renderF x ++ rest) stack s f = run rest stack (pushX s x) false := by
  cases x with
  | prim p => rfl
  | a x => cases h
  | not x =>
    rw [renderF, List.cons_append, run_op_eq .bang rfl, more_F x h rest]
    exact run_F x h rest stack (s.after .bang) false
  | group l =>
    rw [renderF, List.cons_append, List.append_assoc]
    exact (run_L l h (.rp :: rest) (s :: stack) St.empty true).trans
      (congrArg (fun m => run rest stack (s.push m) false) (stL_build l h))
theorem run_rest (xs : List (X P)) (h : wfRest xs = true) (rest : List (Tok P)) (stack : List (St P)) (s : St P)
    (h1 : s.cur ≠ []) (h2 : s.pend = false) :
    run (renderA xs ++ rest) stack s false = run rest stack (xs.foldl pushX s) false := by
  match xs, h with
  | [], _ => rfl
  | y :: xs, h =>
    rw [wfRest_cons, Bool.and_eq_true] at h
    rw [renderA, List.append_assoc, List.foldl_cons, ← run_rest xs h.2 rest stack _ (by simp [pushX]) rfl]
    cases y with
    | a x => rw [renderF, List.cons_append, run_binary_go _ rfl _ _ _ _ (more_F x h.1 _) h1 h2]; exact run_F x h.1 ..
    | _ => exact run_F _ h.1 ..
theorem run_A (g : List (X P)) (h : wfA g = true) (rest : List (Tok P)) (stack : List (St P)) (s : St P) (f : Bool) :
    run (renderA g ++ rest) stack s f = run rest stack (stA s g) false := by
  match g, h with
  | x :: xs, h =>
    have h := Bool.and_eq_true_iff.1 h
    rw [renderA, List.append_assoc, run_F x h.1]
    exact run_rest xs h.2 rest stack _ (by simp [pushX]) rfl
theorem run_O (o : List (List (X P))) (h : wfO o = true) (rest : List (Tok P)) (stack : List (St P)) (s : St P) (f : Bool) :
    run (renderO o ++ rest) stack s f = run rest stack (stO s o) false := by
  match o, h with
  | [g], h => exact run_A g h rest stack s f
  | g :: g' :: gs, h =>
    have h := Bool.and_eq_true_iff.1 h
    rw [renderO_cons2, List.append_assoc, run_A g h.1, List.cons_append,
      run_binary_go _ rfl _ _ _ _ (more_O _ h.2 rest) (stA_ok g h.1 s).1 (stA_ok g h.1 s).2]
    exact run_O (g' :: gs) h.2 rest stack _ false
theorem run_L (l : List (List (List (X P)))) (h : wfL l = true) (rest : List (Tok P)) (stack : List (St P)) (s : St P) (f : Bool) :
    run (renderL l ++ rest) stack s f = run rest stack (stL s l) false := by
  match l, h with
  | [o], h => exact run_O o h rest stack s f
  | o :: o' :: os, h =>
    have h := Bool.and_eq_true_iff.1 h
    rw [renderL_cons2, List.append_assoc, run_O o h.1, List.cons_append,
      run_binary_go _ rfl _ _ _ _ (more_L _ h.2 rest) (stO_ok o h.1 s).1 (stO_ok o h.1 s).2]
    exact run_L (o' :: os) h.2 rest stack _ false
end

end FuModel.Find.Expr
