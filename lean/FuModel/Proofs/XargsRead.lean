import FuModel.Xargs.Read

namespace FuModel.Xargs

theorem scan_append (s : RS) (a b : List UInt8) :
    scan s (a ++ b) =
      match scan s a with
      | .done t h r => .done t h (r ++ b)
      | .more s' => scan s' b := by
  induction a generalizing s with
  | nil => simp [scan]
  | cons c cs ih =>
    simp only [List.cons_append, scan]
    cases hstep : stepByte s c with
    | cont s' => simp only []; exact ih s'
    | done t h => simp

theorem tokFrom_append (s : RS) (a b : List UInt8) :
    tokFrom s (a ++ b) =
      match scan s a with
      | .more s' => tokFrom s' b
      | .done t h r => (tokFrom RS.init (r ++ b)).cons (t, h) := by
  induction a generalizing s with
  | nil => simp [scan]
  | cons c cs ih =>
    simp only [List.cons_append, scan, tokFrom]
    cases hstep : stepByte s c with
    | cont s' => simp only []; exact ih s'
    | done t h => simp

/-- What one `next()` call returns, expressed on the flattened remaining input. -/
theorem wsLoop_spec (s : RS) (chunks : List (List UInt8)) :
    tokFrom s chunks.flatten =
      match wsLoop s chunks with
      | .eof => .ok []
      | .err => .err []
      | .arg t h p c => (tokFrom RS.init (p ++ c.flatten)).cons (t, h) := by
  induction chunks generalizing s with
  | nil =>
    rcases s with ⟨esc, r⟩
    cases esc <;> cases r <;> rfl
  | cons c cs ih =>
    simp only [List.flatten_cons, wsLoop]
    rw [tokFrom_append]
    cases hsc : scan s c with
    | more s' => simp only []; exact ih s'
    | done t h r => simp

theorem wsNext_spec (pending : List UInt8) (chunks : List (List UInt8)) :
    tokFrom RS.init (pending ++ chunks.flatten) =
      match wsNext pending chunks with
      | .eof => .ok []
      | .err => .err []
      | .arg t h p c => (tokFrom RS.init (p ++ c.flatten)).cons (t, h) := by
  unfold wsNext
  rw [tokFrom_append]
  cases hsc : scan RS.init pending with
  | more s' => simp only []; exact wsLoop_spec s' chunks
  | done t h r => simp

theorem scan_more_nil (s : RS) : scan s [] = .more s := rfl

/-- the arguments delivered, error or not -/
def ReadAll.args : ReadAll → List (List UInt8 × Bool)
  | .ok as => as
  | .err as => as

@[simp] theorem ReadAll.args_cons (a : List UInt8 × Bool) (r : ReadAll) :
    (r.cons a).args = a :: r.args := by
  cases r <;> rfl

/-- every argument but the last takes a terminator -/
theorem tokFrom_args_length (s : RS) (inp : List UInt8) :
    (tokFrom s inp).args.length ≤ inp.length + 1 := by
  induction inp generalizing s with
  | nil =>
    simp only [tokFrom]
    split
    · simp [ReadAll.args]
    · split <;> simp [ReadAll.args]
  | cons c cs ih =>
    simp only [tokFrom]
    cases stepByte s c with
    | cont s' => exact Nat.le_succ_of_le (ih s')
    | done t h => rw [ReadAll.args_cons]; exact Nat.succ_le_succ (ih RS.init)

/-- The buffered reader, driven call by call over any chunking, produces exactly the one-pass
    tokenisation of the concatenated input.  Every call that does not end the run delivers an
    argument, so one more call than there are arguments is enough. -/
theorem wsAllFuel_spec (fuel : Nat) (pending : List UInt8) (chunks : List (List UInt8))
    (hf : (tokFrom RS.init (pending ++ chunks.flatten)).args.length < fuel) :
    wsAllFuel fuel pending chunks = tokFrom RS.init (pending ++ chunks.flatten) := by
  induction fuel generalizing pending chunks with
  | zero => exact absurd hf (Nat.not_lt_zero _)
  | succ n ih =>
    rw [wsNext_spec] at hf ⊢
    simp only [wsAllFuel]
    cases hn : wsNext pending chunks with
    | eof => rfl
    | err => rfl
    | arg t h p c =>
      simp only [hn, ReadAll.args_cons, List.length_cons] at hf ⊢
      rw [ih p c (Nat.lt_of_succ_lt_succ hf)]

end FuModel.Xargs
