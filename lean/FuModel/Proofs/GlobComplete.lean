import FuModel.Proofs.GlobBase

/-!
# `Pattern::matches` decides exactly the language of the items

`Mt is s a`: the items match exactly the first `a` characters of `s`; `Mt is s s.length` is
membership in the language (`mt_denot`, `mt_of_denot`).  What the engine reports is an `Mt`
(`firstEnd_mt`), so a report of the subject's length is a whole-string match (`C12_whole_string`).
Conversely the engine's search (`firstEnd`: greedy `.*`, backtracking from the longest choice)
returns the **largest** `a` with `Mt is s a` (`firstEnd_longest`).  The reason is a monotonicity of
glob patterns (no alternation, every item but `*` takes exactly one character): if the pattern can
match from two starting positions, then from the later one it can reach at least as far
(`mt_suffix`, `mt_mono`).  Hence if the whole subject is in the language, the first match the engine
reports is the whole subject (`matchesItems_complete`).
-/
namespace FuModel.Find.Glob

inductive Mt (icase : Bool) : List Item → List Char → Nat → Prop
  | nil (s : List Char) : Mt icase [] s 0
  | one {it : Item} {r : List Item} {x : Char} {xs : List Char} {a : Nat} :
      it ≠ .star → it.accepts icase x = true → Mt icase r xs a → Mt icase (it :: r) (x :: xs) (a + 1)
  | star {r : List Item} {s : List Char} {m a : Nat} :
      m ≤ s.length → Mt icase r (s.drop m) a → Mt icase (.star :: r) s (m + a)

theorem mt_le {icase : Bool} {is : List Item} {s : List Char} {a : Nat} (h : Mt icase is s a) : a ≤ s.length := by
  induction h with
  | nil s => omega
  | one _ _ _ ih => simp; omega
  | star hm _ ih => simp at ih; omega

/-- the last index in `0..n` at which `f` succeeds -/
theorem findSome_rev_some {α : Type} (f : Nat → Option α) (n : Nat) (e : α)
    (h : (List.range (n + 1)).reverse.findSome? f = some e) :
    ∃ j, j ≤ n ∧ f j = some e ∧ ∀ j', j < j' → j' ≤ n → f j' = none := by
  induction n with
  | zero =>
    exact ⟨0, by omega, by simpa [List.range_succ] using h, fun j' h1 h2 => by omega⟩
  | succ n ih =>
    rw [List.range_succ, List.reverse_append, List.reverse_singleton, List.singleton_append, List.findSome?_cons] at h
    cases hf : f (n + 1) with
    | some v =>
      simp [hf] at h
      exact ⟨n + 1, by omega, by rw [hf, h], fun j' h1 h2 => by omega⟩
    | none =>
      simp only [hf] at h
      obtain ⟨j, hj, hfj, hlast⟩ := ih h
      refine ⟨j, by omega, hfj, fun j' h1 h2 => ?_⟩
      by_cases hj' : j' = n + 1
      · rw [hj']; exact hf
      · exact hlast j' h1 (by omega)

theorem firstEnd_mt (icase : Bool) (is : List Item) : ∀ (s : List Char) (pos e : Nat),
    firstEnd icase is s pos = some e → ∃ a, e = pos + a ∧ Mt icase is s a := by
  induction is with
  | nil => intro s pos e h; simp only [firstEnd, Option.some.injEq] at h; exact ⟨0, by omega, .nil s⟩
  | cons it r ih =>
    intro s pos e h
    by_cases hne : it = .star
    · subst hne
      simp only [firstEnd] at h
      obtain ⟨j, hj, hfj, _⟩ := findSome_rev_some _ s.length e h
      obtain ⟨a, he, hm⟩ := ih (s.drop j) (pos + j) e hfj
      exact ⟨j + a, by omega, .star hj hm⟩
    · rw [firstEnd_one icase hne] at h
      cases s with
      | nil => cases h
      | cons x xs =>
        simp only at h
        split at h
        · rename_i ha
          obtain ⟨a, he, hm⟩ := ih xs (pos + 1) e h
          exact ⟨a + 1, by omega, .one hne ha hm⟩
        · cases h

theorem firstEnd_exists (icase : Bool) {is : List Item} {s : List Char} {a : Nat} (h : Mt icase is s a) :
    ∀ pos, (firstEnd icase is s pos).isSome = true := by
  induction h with
  | nil s => intro pos; simp [firstEnd]
  | one hne hacc _ ih =>
    intro pos
    rw [firstEnd_one icase hne]
    simpa only [if_pos hacc] using ih (pos + 1)
  | star hm _ ih =>
    intro pos
    simp only [firstEnd]
    exact List.findSome?_isSome_iff.mpr ⟨_, by simp; omega, ih _⟩

/-- monotonicity: from a later start (`d` characters on) the pattern reaches at least as far -/
theorem mt_suffix {icase : Bool} {is : List Item} {s : List Char} {a : Nat} (h1 : Mt icase is s a) :
    ∀ (d : Nat) (t : List Char) (b : Nat), s.drop d = t → Mt icase is t b →
      ∃ b', a ≤ d + b' ∧ Mt icase is t b' := by
  induction h1 with
  | nil s => intro d t b _ h2; exact ⟨b, by omega, h2⟩
  | @one it r x xs a hne hacc hr ih =>
    intro d t b ht h2
    cases d with
    | zero => subst ht; exact ⟨a + 1, by omega, .one hne hacc hr⟩
    | succ d =>
      cases h2 with
      | star => exact absurd rfl hne
      | @one _ _ x2 xs2 b1 _ hacc2 hr2 =>
        have e : xs.drop (d + 1) = xs2 := by simpa [List.tail_drop] using congrArg List.tail ht
        obtain ⟨b', hb, hm⟩ := ih (d + 1) xs2 b1 e hr2
        exact ⟨b' + 1, by omega, .one hne hacc2 hm⟩
  | @star r s m a hm hr ih =>
    intro d t b ht h2
    cases h2 with
    | one hne2 => exact absurd rfl hne2
    | @star _ _ m2 b1 hm2 hr2 =>
      subst ht
      by_cases hc : d ≤ m
      · -- the star of the later start stretches to where the earlier match continued
        obtain ⟨k, rfl⟩ := Nat.exists_eq_add_of_le hc
        exact ⟨k + a, by omega, .star (by simp only [List.length_drop]; omega) (by rwa [List.drop_drop])⟩
      · obtain ⟨k, hk⟩ := Nat.exists_eq_add_of_le (Nat.le_add_right_of_le (Nat.le_of_not_le hc) : m ≤ d + m2)
        obtain ⟨b', hb, hmb⟩ := ih k _ b1 (by rw [List.drop_drop, List.drop_drop, hk]) hr2
        exact ⟨m2 + b', by omega, .star hm2 hmb⟩

theorem mt_mono (icase : Bool) (is : List Item) : ∀ (s : List Char) (j j2 a b : Nat), j ≤ j2 →
    Mt icase is (s.drop j) a → Mt icase is (s.drop j2) b → ∃ b', j + a ≤ j2 + b' ∧ Mt icase is (s.drop j2) b' := by
  intro s j j2 a b hj h1 h2
  obtain ⟨k, rfl⟩ := Nat.exists_eq_add_of_le hj
  obtain ⟨b', hb, hm⟩ := mt_suffix h1 k _ b (List.drop_drop ..) h2
  exact ⟨b', by omega, hm⟩

/-- the engine's first match ends at least as far as any match -/
theorem firstEnd_longest (icase : Bool) (is : List Item) : ∀ (s : List Char) (pos e a : Nat),
    firstEnd icase is s pos = some e → Mt icase is s a → pos + a ≤ e := by
  induction is with
  | nil => intro s pos e a h hm; cases hm; simp only [firstEnd, Option.some.injEq] at h; omega
  | cons it r ih =>
    intro s pos e a h hm
    cases hm with
    | @one _ _ x xs a1 hne hacc hr =>
      rw [firstEnd_one icase hne] at h
      simp only [if_pos hacc] at h
      have := ih xs (pos + 1) e a1 h hr
      omega
    | @star _ _ m a1 hmle hr =>
      simp only [firstEnd] at h
      obtain ⟨j, hj, hfj, hlast⟩ := findSome_rev_some _ s.length _ h
      -- m ≤ j: at m a match exists, and j is the last index where the search succeeds
      have hmj : m ≤ j := by
        apply Nat.le_of_not_lt
        intro hlt
        have hex := firstEnd_exists icase hr (pos + m)
        rw [hlast m hlt hmle] at hex; cases hex
      -- by monotonicity the pattern reaches at least as far from j
      obtain ⟨aj, _, hj'⟩ := firstEnd_mt icase r (s.drop j) (pos + j) e hfj
      obtain ⟨b', hb, hmb⟩ := mt_mono icase r s m j a1 aj hmj hr hj'
      have := ih (s.drop j) (pos + j) e b' hfj hmb
      omega

theorem firstEnd_max (icase : Bool) (is : List Item) : ∀ (s : List Char) (pos k a : Nat),
    firstEnd icase is s pos = some (pos + k) → Mt icase is s a → a ≤ k := by
  intro s pos k a h hm
  have := firstEnd_longest icase is s pos _ a h hm
  omega

theorem mt_denot {icase : Bool} {is : List Item} {s : List Char} {a : Nat} (h : Mt icase is s a) :
    denot icase is (s.take a) = true := by
  induction h with
  | nil s => rfl
  | one hne hacc _ ih => rw [List.take_succ_cons, denot_one icase hne]; simp [hacc, ih]
  | @star r s m a hm _ ih =>
    simp only [denot, List.any_eq_true, List.mem_range]
    refine ⟨m, by simp; omega, ?_⟩
    rw [List.drop_take, Nat.add_sub_cancel_left]; exact ih

theorem mt_of_denot (icase : Bool) (is : List Item) : ∀ s, denot icase is s = true → Mt icase is s s.length := by
  induction is with
  | nil => intro s h; simp [denot] at h; subst h; exact .nil []
  | cons it r ih =>
    intro s h
    by_cases hne : it = .star
    · subst hne
      simp only [denot, List.any_eq_true, List.mem_range] at h
      obtain ⟨k, hk, hd⟩ := h
      have hl : s.length = k + (s.drop k).length := by simp; omega
      rw [hl]
      exact .star (by omega) (ih (s.drop k) hd)
    · rw [denot_one icase hne] at h
      cases s with
      | nil => cases h
      | cons x xs =>
        simp only [Bool.and_eq_true] at h
        exact .one hne h.1 (ih xs h.2)

theorem firstEnd_sound (icase : Bool) (is : List Item) (s : List Char) (pos e : Nat)
    (h : firstEnd icase is s pos = some e) :
    ∃ k, e = pos + k ∧ k ≤ s.length ∧ denot icase is (s.take k) = true := by
  obtain ⟨a, he, hm⟩ := firstEnd_mt icase is s pos e h
  exact ⟨a, he, mt_le hm, mt_denot hm⟩

/-- The match is always against the entire string: if `Pattern::matches` says yes, the whole
    subject — not a prefix, not a substring — is in the language of the pattern's items. -/
theorem C12_whole_string (icase : Bool) (is : List Item) (s : List Char)
    (h : matchesItems icase is s = true) : denot icase is s = true := by
  obtain ⟨a, he, hm⟩ := firstEnd_mt icase is s 0 s.length (by simpa [matchesItems] using h)
  obtain rfl : a = s.length := by omega
  simpa using mt_denot hm

/-- **Completeness of the matching mechanism**: if the whole subject is in the language of the
    items, `Pattern::matches` says yes — the first match found by the greedy backtracking search
    is then the whole subject. -/
theorem matchesItems_complete (icase : Bool) (is : List Item) (s : List Char) (h : denot icase is s = true) :
    matchesItems icase is s = true := by
  have hm := mt_of_denot icase is s h
  cases hf : firstEnd icase is s 0 with
  | none => have := firstEnd_exists icase hm 0; rw [hf] at this; cases this
  | some e =>
    obtain ⟨a, he, hma⟩ := firstEnd_mt icase is s 0 e hf
    have := mt_le hma
    have := firstEnd_longest icase is s 0 e _ hf hm
    have : e = s.length := by omega
    simp [matchesItems, hf, this]

/-- the matching mechanism is exact: `Pattern::matches` on the items is true iff the whole subject
    is in their language -/
theorem C12_mechanism_exact (icase : Bool) (is : List Item) (s : List Char) :
    matchesItems icase is s = true ↔ denot icase is s = true :=
  ⟨C12_whole_string icase is s, matchesItems_complete icase is s⟩

end FuModel.Find.Glob
