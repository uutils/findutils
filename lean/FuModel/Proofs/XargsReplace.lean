import FuModel.Proofs.XargsBatch

/-!
Helper lemmas for C20 (replace mode): `lastIndex` versus `lastVal`, the mode
selection of `normalize`, the equations of `replaceIn` (how much fuel `replaceAll`
gets does not matter), and the plan when the argument limit is one.
-/
namespace FuModel.Xargs

/-! ### `lastIndex` and `lastVal` -/

theorem lastIndex_go_eq_none (p : Opt → Bool) (opts : List Opt) (i : Nat) (best : Option Nat) :
    lastIndex.go p i best opts = none ↔ best = none ∧ ∀ o ∈ opts, p o = false := by
  induction opts generalizing i best with
  | nil => simp [lastIndex.go]
  | cons o os ih => cases h : p o <;> simp [lastIndex.go, ih, h]

theorem lastVal_eq_none {α} (opts : List Opt) (f : Opt → Option α) :
    lastVal opts f = none ↔ ∀ o ∈ opts, f o = none := by
  simp [lastVal]

/-- the bridge: a family has a last index iff it has a last value -/
theorem lastIndex_none_iff_lastVal {α} (opts : List Opt) (p : Opt → Bool) (f : Opt → Option α)
    (hpf : ∀ o, p o = (f o).isSome) :
    lastIndex opts p = none ↔ lastVal opts f = none := by
  simp [lastIndex, lastIndex_go_eq_none, lastVal_eq_none, hpf]

def nProj : Opt → Option Nat := fun | .n v => some v | _ => none
def lProj : Opt → Option Nat := fun | .l v => some v | _ => none
def rProj : Opt → Option (List UInt8) :=
  fun | .replI rs => some rs | .repl rs => some (rs.getD [123, 125]) | _ => none

theorem lastIndex_N_none (opts : List Opt) :
    lastIndex opts Opt.isN = none ↔ lastVal opts nProj = none :=
  lastIndex_none_iff_lastVal opts _ _ (by intro o; cases o <;> rfl)

theorem lastIndex_L_none (opts : List Opt) :
    lastIndex opts Opt.isL = none ↔ lastVal opts lProj = none :=
  lastIndex_none_iff_lastVal opts _ _ (by intro o; cases o <;> rfl)

theorem lastIndex_R_none (opts : List Opt) :
    lastIndex opts Opt.isRepl = none ↔ lastVal opts rProj = none :=
  lastIndex_none_iff_lastVal opts _ _ (by intro o; cases o <;> rfl)

/-! ### the mode selection of `normalize` as a function of six values -/

def sel (mA mL : Option Nat) (rR : Option (List UInt8)) (li ai ri : Option Nat) :
    Option Nat × Option Nat × Option (List UInt8) :=
  match mA, mL, rR with
  | none, none, some r => (some 1, none, some r)
  | some 1, none, some r => (some 1, none, some r)
  | some a, none, none => (some a, none, none)
  | none, some b, none => (none, some b, none)
  | none, none, none => (none, none, none)
  | _, _, _ =>
    if optGt li ai && optGt li ri then (none, mL, none)
    else if optGt ai li && optGt ai ri then (mA, none, none)
    else (some 1, none, rR)

def selOf (opts : List Opt) : Option Nat × Option Nat × Option (List UInt8) :=
  sel (lastVal opts nProj) (lastVal opts lProj) (lastVal opts rProj)
    (lastIndex opts Opt.isL) (lastIndex opts Opt.isN) (lastIndex opts Opt.isRepl)

/-- what `normalize` returns besides the delimiter -/
theorem normalize_of_sel {opts : List Opt} {x : Option Nat × Option Nat × Option (List UInt8)}
    (h : selOf opts = x) :
    (normalize opts).n = x.1 ∧ (normalize opts).l = x.2.1 ∧ (normalize opts).replace = x.2.2 := by
  subst h; exact ⟨rfl, rfl, rfl⟩

theorem normalize_delim_of_replace (opts : List Opt)
    (h : (normalize opts).replace.isSome = true) : ∃ d, (normalize opts).delim = some d := by
  have hd : (normalize opts).delim =
      (match lastVal opts (fun | .d b => some b | _ => none), opts.any Opt.isNull with
      | some d, true =>
        if optGt (lastIndex opts Opt.isNull) (lastIndex opts Opt.isD) then some 0 else some d
      | some d, false => some d
      | none, true => some 0
      | none, false => (normalize opts).replace.map (fun _ => 10)) := rfl
  rw [hd]
  split
  · split <;> exact ⟨_, rfl⟩
  · exact ⟨_, rfl⟩
  · exact ⟨_, rfl⟩
  · cases hr : (normalize opts).replace with
    | none => simp [hr] at h
    | some r => exact ⟨_, rfl⟩

theorem optGt_of_lt_left (a : Option Nat) (i : Nat) (h : ∀ j, a = some j → j < i) :
    optGt a (some i) = false := by
  cases a with
  | none => rfl
  | some j => simpa [optGt] using Nat.le_of_lt (h j rfl)

theorem optGt_of_lt_right (a : Option Nat) (i : Nat) (h : ∀ j, a = some j → j < i) :
    optGt (some i) a = true := by
  cases a with
  | none => rfl
  | some j => simpa [optGt] using h j rfl

/-! The mode theorems go through the rows of `sel` by the shape of the three values; only
    `some a, none, some r` with `a` unknown leaves the choice between the `-n 1` row and the
    comparison of indices open. -/

theorem sel_replace_last {mA mL : Option Nat} {rR : Option (List UInt8)} {li ai ri : Option Nat}
    {i : Nat} (hi : ri = some i) (hR : rR ≠ none)
    (hn : ∀ j, ai = some j → j < i) (hl : ∀ j, li = some j → j < i) :
    sel mA mL rR li ai ri = (some 1, none, rR) := by
  subst hi
  have h1 := optGt_of_lt_left li i hl
  have h2 := optGt_of_lt_left ai i hn
  cases rR with
  | none => exact absurd rfl hR
  | some r =>
    cases mL with
    | some b => cases mA <;> simp [sel, h1, h2]
    | none =>
      cases mA with
      | none => rfl
      | some a =>
        by_cases ha : a = 1
        · subst ha; rfl
        · simp [sel, ha, h1, h2]

theorem sel_lines_last {mA mL : Option Nat} {rR : Option (List UInt8)} {li ai ri : Option Nat}
    {i : Nat} (hi : li = some i) (hL : mL ≠ none)
    (hn : ∀ j, ai = some j → j < i) (hr : ∀ j, ri = some j → j < i) :
    sel mA mL rR li ai ri = (none, mL, none) := by
  subst hi
  cases mL with
  | none => exact absurd rfl hL
  | some b =>
    cases mA <;> cases rR <;> simp [sel, optGt_of_lt_right ai i hn, optGt_of_lt_right ri i hr]

theorem sel_args_last {mA mL : Option Nat} {rR : Option (List UInt8)} {li ai ri : Option Nat}
    {i v : Nat} (hi : ai = some i) (hv : mA = some v)
    (hL : li = none ↔ mL = none) (hR : ri = none ↔ rR = none)
    (hl : ∀ j, li = some j → j < i) (hr : ∀ j, ri = some j → j < i)
    (hconf : v ≠ 1 ∨ li.isSome = true ∨ ri = none) :
    sel mA mL rR li ai ri = (some v, none, none) := by
  subst hi hv
  have h1 := optGt_of_lt_right li i hl
  have h2 := optGt_of_lt_right ri i hr
  have h3 := optGt_of_lt_left li i hl
  cases mL with
  | some b => cases rR <;> simp [sel, h1, h2, h3]
  | none =>
    cases rR with
    | none => simp [sel]
    | some r =>
      have hv : v ≠ 1 := by simpa [hL.2 rfl, hR] using hconf
      simp [sel, hv, h1, h2, h3]

theorem sel_replace_with_n1 {mA mL : Option Nat} {rR : Option (List UInt8)} (li ai ri : Option Nat)
    (hA : mA = some 1) (hL : mL = none) (hR : rR ≠ none) :
    sel mA mL rR li ai ri = (some 1, none, rR) := by
  subst hA hL
  cases rR with
  | none => exact absurd rfl hR
  | some r => rfl

/-! ### `replaceAll` -/

/-- after a match the rest is shorter, so one unit of fuel less will do -/
theorem length_drop_le {pat : List UInt8} (hp : pat ≠ []) {s : List UInt8} {f : Nat}
    (h : s.length ≤ f + 1) : (s.drop pat.length).length ≤ f := by
  rw [List.length_drop]
  exact Nat.sub_le_of_le_add (Nat.le_trans h (Nat.add_le_add_left (List.length_pos_iff.2 hp) f))

theorem replaceAll_fuel (pat rep : List UInt8) : ∀ (f1 f2 : Nat) (s : List UInt8),
    s.length ≤ f1 → s.length ≤ f2 → replaceAll pat rep f1 s = replaceAll pat rep f2 s := by
  intro f1
  induction f1 with
  | zero =>
    intro f2 s h1 _
    obtain rfl := List.eq_nil_of_length_eq_zero (Nat.le_zero.1 h1)
    cases f2 <;> rfl
  | succ f1 ih =>
    intro f2 s h1 h2
    match s, f2 with
    | [], f2 => cases f2 <;> rfl
    | c :: cs, f2 + 1 =>
      simp only [replaceAll]
      split
      · rename_i hpre
        have hp : pat ≠ [] := by rintro rfl; simp at hpre
        rw [ih f2 _ (length_drop_le hp h1) (length_drop_le hp h2)]
      · rw [ih f2 cs (Nat.le_of_succ_le_succ h1) (Nat.le_of_succ_le_succ h2)]

theorem replaceIn_eq (pat rep s : List UInt8) (fuel : Nat) (h : s.length ≤ fuel) :
    replaceAll pat rep fuel s = replaceIn pat rep s :=
  replaceAll_fuel pat rep fuel (s.length + 1) s h (Nat.le_succ _)

theorem replaceIn_cons (pat rep : List UInt8) (c : UInt8) (cs : List UInt8) :
    replaceIn pat rep (c :: cs) =
      if pat.isPrefixOf (c :: cs) && !pat.isEmpty then
        rep ++ replaceIn pat rep ((c :: cs).drop pat.length)
      else c :: replaceIn pat rep cs := by
  simp only [replaceIn, List.length_cons, replaceAll]
  split
  · rename_i hpre
    have hp : pat ≠ [] := by rintro rfl; simp at hpre
    congr 1
    exact replaceAll_fuel _ _ _ _ _ (Nat.le_succ_of_le (length_drop_le hp (Nat.le_refl _)))
      (Nat.le_succ _)
  · rfl

theorem occursIn_cons (pat : List UInt8) (c : UInt8) (cs : List UInt8) (h : occursIn pat cs) :
    occursIn pat (c :: cs) := by
  obtain ⟨pre, post, rfl⟩ := h
  exact ⟨c :: pre, post, rfl⟩

theorem occursIn_of_isPrefixOf (pat s : List UInt8) (h : pat.isPrefixOf s = true) :
    occursIn pat s := by
  rw [List.isPrefixOf_iff_prefix] at h
  obtain ⟨t, rfl⟩ := h
  exact ⟨[], t, rfl⟩

theorem replaceAll_absent (pat rep : List UInt8) : ∀ (fuel : Nat) (s : List UInt8),
    ¬ occursIn pat s → replaceAll pat rep fuel s = s := by
  intro fuel
  induction fuel with
  | zero => intro s _; rfl
  | succ fuel ih =>
    intro s h
    cases s with
    | nil => rfl
    | cons c cs =>
      simp only [replaceAll]
      split
      · rename_i hpre
        simp only [Bool.and_eq_true] at hpre
        exact absurd (occursIn_of_isPrefixOf _ _ hpre.1) h
      · congr 1
        exact ih cs (fun hc => h (occursIn_cons _ _ _ hc))

/-- No match starts inside `s` when `pat` does not occur in `s` followed by all of `pat` but its
    last byte: a match there would be a prefix of what follows `s` too, and short enough to lie
    within that stretch. -/
theorem not_isPrefixOf_of_first {pat s : List UInt8} (post : List UInt8) (hs : s ≠ [])
    (h : ¬ occursIn pat (s ++ pat.dropLast)) : pat.isPrefixOf (s ++ pat ++ post) = false := by
  refine Bool.eq_false_iff.2 fun hb => h ?_
  have h2 : s ++ pat.dropLast <+: s ++ pat ++ post :=
    ((List.prefix_append_right_inj s).2 (List.dropLast_prefix pat)).trans (List.prefix_append _ _)
  have hlen : pat.length ≤ (s ++ pat.dropLast).length := by
    have := List.length_pos_iff.2 hs
    rw [List.length_append, List.length_dropLast]; omega
  obtain ⟨t, ht⟩ := List.prefix_of_prefix_length_le (List.isPrefixOf_iff_prefix.1 hb) h2 hlen
  exact ⟨[], t, ht.symm⟩

/-! ### one command per line when the argument limit is one -/

theorem tryArg_refuse (lim : Limits) (st : LState) (a : Arg) {n : Nat} (hn : lim.n = some n)
    (h : n ≤ st.args) : tryArg lim st a = .error false := by
  simp [tryArg, hn, Nat.not_lt.2 h]

/-- a builder holding one argument, with the argument limit one: every further line
    closes it and starts a new command -/
theorem plan_pending (cfg : Config) (init : LState) (hn : cfg.lim.n = some 1) :
    ∀ (lines : List (List UInt8)) (st : LState) (a : Arg), 1 ≤ st.args →
      (∀ l ∈ lines, fitsB cfg.lim init [⟨l, .hard⟩] = true) →
      plan cfg init false ⟨st, [a]⟩ true (lines.map (fun l => (⟨l, .hard⟩ : Arg)))
        = ([a] :: lines.map (fun l => [(⟨l, .hard⟩ : Arg)]), false) := by
  intro lines
  induction lines with
  | nil => intros; simp [plan]
  | cons l ls ih =>
    intro st a hst hfit
    have hok := tryArg_ok_of_accepts ((fitsB_singleton_iff _ _ _).1 (hfit l (by simp)))
    simp only [List.map_cons, plan, tryArg_refuse cfg.lim st _ hn hst, hok]
    rw [ih _ _ (by simp [stepState]) (fun l' hl' => hfit l' (by simp [hl']))]
    simp

end FuModel.Xargs
