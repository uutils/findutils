import FuModel.Proofs.Walk

/-!
# Properties of the reference traversal itself

`visitsN` is the list of entry views the reference traversal evaluates when nothing is pruned and
nobody quits (in visit order).  One induction over the traversal (`refNode_ran`) relates the
evaluator's state before and after to that list; what is known about particular evaluators — a
subsequence of the entries is evaluated (`refNode_sub`), all of them when nothing prunes or quits
(`refNode_exactI`), a preorder on states is respected (`refNode_preserves`), nothing at all happens
in an empty depth range (`refNode_empty_range`) — are instances of it.
-/
namespace FuModel.Find.Walk
variable {α σ β : Type}

def selfVisit (c : RefCfg) (rpath : List Name) (depth : Nat) (n : Node α) : List (Visit α) :=
  if inRange c depth then [mkVisit c rpath depth n] else []

mutual
def visitsN (c : RefCfg) (rpath : List Name) (depth : Nat) : Node α → List (Visit α)
  | .leaf nm k a => if k == .linkLoop && c.follows depth then [] else selfVisit c rpath depth (.leaf nm k a)
  | .dir nm isLink readable a kids =>
    let below :=
      if (!isLink || c.follows depth) && decide (depth < c.maxDepth) then
        (if readable then visitsK c rpath (depth + 1) kids else [])
      else []
    if c.depthFirst then below ++ selfVisit c rpath depth (.dir nm isLink readable a kids)
    else selfVisit c rpath depth (.dir nm isLink readable a kids) ++ below
def visitsK (c : RefCfg) (rpath : List Name) (depth : Nat) : List (Node α) → List (Visit α)
  | [] => []
  | n :: ns => visitsN c (n.name :: rpath) depth n ++ visitsK c rpath depth ns
end

/-! ### pieces of a traversal and their outcomes -/

section
variable (c : RefCfg) (ev : Visit α → σ → EvalOut × σ) (I : σ → Prop) (T : σ → σ → List (Visit α) → Prop) (W : Prop)

/-- `r` is an admissible outcome, from `A`, of a piece of the traversal whose entries are `l`: the
    invariant `I` still holds, `T` relates the two states along `l`, and the piece ended in a quit
    only if cutting a traversal short is allowed (`W`) -/
def Ran (A : Acc σ) (r : Bool × Acc σ) (l : List (Visit α)) : Prop :=
  I r.2.st ∧ T A.st r.2.st l ∧ (r.1 = true → W)

/-- what `refNode_ran` asks for: `T` composes along appended lists and, where cuts are allowed,
    tolerates entries left out at the end; every evaluation of an in-range entry `v` keeps `I`, is a
    `T`-step along `[v]`, and asks to prune or quit only where cuts are allowed -/
structure Steps : Prop where
  refl : ∀ s, T s s []
  trans : ∀ a b cc l1 l2, T a b l1 → T b cc l2 → T a cc (l1 ++ l2)
  cut : W → ∀ a b l l', T a b l → T a b (l ++ l')
  eval : ∀ v s, inRange c v.ent.depth = true → I s →
    I (ev v s).2 ∧ T s (ev v s).2 [v] ∧ ((ev v s).1.prune = true ∨ (ev v s).1.quit = true → W)

variable {c ev I T W} (h : Steps c ev I T W)
include h

/-- nothing evaluated (a diagnostic does not touch the evaluator's state) -/
theorem Ran.skip {A B : Acc σ} (hB : B.st = A.st) (hI : I A.st) : Ran I T W A (false, B) [] :=
  ⟨hB ▸ hI, hB ▸ h.refl _, nofun⟩

/-- a piece that was cut short stands for any longer one -/
theorem Ran.cut {A : Acc σ} {r : Bool × Acc σ} {l : List (Visit α)} (hW : W) (hr : Ran I T W A r l) (l' : List (Visit α)) :
    Ran I T W A r (l ++ l') :=
  ⟨hr.1, h.cut hW _ _ _ _ hr.2.1, hr.2.2⟩

/-- one piece after another; the second is not run when the first quit -/
theorem Ran.seq {A : Acc σ} {r r' : Bool × Acc σ} {l1 l2 : List (Visit α)} (h1 : Ran I T W A r l1)
    (h2 : r.1 = false → Ran I T W r.2 r' l2) : Ran I T W A (if r.1 then r else r') (l1 ++ l2) := by
  cases hq : r.1
  · exact ⟨(h2 hq).1, h.trans _ _ _ _ _ h1.2.1 (h2 hq).2.1, (h2 hq).2.2⟩
  · exact h1.cut h (h1.2.2 hq) l2

/-- one entry: evaluated if in range; a prune request is a cut -/
theorem visit_ran (rp : List Name) (d : Nat) (n : Node α) (A : Acc σ) (hI : I A.st) :
    Ran I T W A ((visit c ev rp d n A).2.1, (visit c ev rp d n A).2.2) (selfVisit c rp d n) ∧
      ((visit c ev rp d n A).1 = true → W) := by
  unfold visit selfVisit
  cases hr : inRange c d
  · exact ⟨.skip h rfl hI, nofun⟩
  · have := h.eval (mkVisit c rp d n) A.st ((mkVisit_depth c rp d n).symm ▸ hr) hI
    exact ⟨⟨this.1, this.2.1, fun h => this.2.2 (.inr h)⟩, fun h => this.2.2 (.inl h)⟩

mutual
/-- **The traversal, piece by piece**: under `Steps`, the traversal of a node is a `T`-step along `visitsN`. -/
theorem refNode_ran (rp : List Name) (d : Nat) (n : Node α) (A : Acc σ) (hI : I A.st) :
    Ran I T W A (refNode c ev rp d n A) (visitsN c rp d n) := by
  match n with
  | .leaf nm k a =>
    rw [refNode, visitsN]
    cases k == .linkLoop && c.follows d
    · exact (visit_ran h rp d _ A hI).1
    · exact .skip h (by split <;> rfl) hI
  | .dir nm l r a kids =>
    rw [refNode, visitsN]
    have hb : ∀ (b : Bool) A, I A.st → Ran I T W A
        (if b then if r then refKids c ev rp (d + 1) kids A else (false, diag A) else (false, A))
        (if b then if r then visitsK c rp (d + 1) kids else [] else []) := fun b A hI => by
      cases b
      · exact .skip h rfl hI
      · cases r
        · exact .skip h rfl hI
        · exact refKids_ran rp (d + 1) kids A hI
    cases c.depthFirst
    · -- the directory, then (unless it was pruned) what lies below it
      have ⟨hv, hp⟩ := visit_ran h rp d (.dir nm l r a kids) A hI
      generalize visit c ev rp d (.dir nm l r a kids) A = v at hv hp ⊢
      obtain ⟨p, q, A'⟩ := v
      cases q
      · cases p
        · exact hv.seq h fun _ => hb _ A' hv.1
        · exact hv.cut h (hp rfl) _
      · exact hv.cut h (hv.2.2 rfl) _
    · exact (hb _ A hI).seq h fun _ => (visit_ran h rp d _ _ (hb _ A hI).1).1
theorem refKids_ran (rp : List Name) (d : Nat) (kids : List (Node α)) (A : Acc σ) (hI : I A.st) :
    Ran I T W A (refKids c ev rp d kids A) (visitsK c rp d kids) := by
  match kids with
  | [] => exact .skip h rfl hI
  | n :: ns =>
    rw [refKids, visitsK]
    exact (refNode_ran (n.name :: rp) d n A hI).seq h fun _ =>
      refKids_ran rp d ns _ (refNode_ran (n.name :: rp) d n A hI).1
end

end

/-! ### with pruning and quitting: a subsequence of the entries

For every relation `T a b l` ("from `a` to `b` by evaluating, in order, some of the entries `l`")
that is reflexive, composes by appending, may be weakened along sublists and holds for one
evaluation, the whole traversal satisfies `T` with `visitsN`. -/

section sub
variable (c : RefCfg) (ev : Visit α → σ → EvalOut × σ) (T : σ → σ → List (Visit α) → Prop)
  (hr : ∀ s, T s s [])
  (ht : ∀ a b cc l1 l2, T a b l1 → T b cc l2 → T a cc (l1 ++ l2))
  (hw : ∀ a b l l', T a b l → l.Sublist l' → T a b l')
  (hev : ∀ v s, T s (ev v s).2 [v])
include hr ht hw hev

theorem steps_sub : Steps c ev (fun _ => True) T True :=
  ⟨hr, ht, fun _ a b l l' h => hw a b l _ h (List.sublist_append_left l l'), fun v s _ _ => ⟨trivial, hev v s, fun _ => trivial⟩⟩

theorem refNode_sub (rp : List Name) (d : Nat) (n : Node α) (A : Acc σ) :
    T A.st (refNode c ev rp d n A).2.st (visitsN c rp d n) :=
  (refNode_ran (steps_sub c ev T hr ht hw hev) rp d n A trivial).2.1

theorem refKids_sub (rp : List Name) (d : Nat) (kids : List (Node α)) (A : Acc σ) :
    T A.st (refKids c ev rp d kids A).2.st (visitsK c rp d kids) :=
  (refKids_ran (steps_sub c ev T hr ht hw hev) rp d kids A trivial).2.1
end sub

variable (c : RefCfg) (ev : Visit α → σ → EvalOut × σ)

/-- whatever reflexive, transitive relation on the evaluator's state every single evaluation
    respects, the whole reference traversal respects (diagnostics do not touch that state) -/
theorem refNode_preserves (Q : σ → σ → Prop) (hr : ∀ s, Q s s) (ht : ∀ a b c, Q a b → Q b c → Q a c)
    (hev : ∀ v s, Q s (ev v s).2) (rp : List Name) (d : Nat) (n : Node α) (A : Acc σ) :
    Q A.st (refNode c ev rp d n A).2.st :=
  refNode_sub c ev (fun a b _ => Q a b) hr (fun _ _ _ _ _ => ht _ _ _) (fun _ _ _ _ h _ => h) hev rp d n A

theorem refKids_preserves (Q : σ → σ → Prop) (hr : ∀ s, Q s s) (ht : ∀ a b c, Q a b → Q b c → Q a c)
    (hev : ∀ v s, Q s (ev v s).2) (rp : List Name) (d : Nat) (kids : List (Node α)) (A : Acc σ) :
    Q A.st (refKids c ev rp d kids A).2.st :=
  refKids_sub c ev (fun a b _ => Q a b) hr (fun _ _ _ _ _ => ht _ _ _) (fun _ _ _ _ h _ => h) hev rp d kids A

/-! ### an evaluator that never prunes or quits sees every entry of `visitsN`, in order

If, on states satisfying an invariant `I`, every evaluation keeps `I` and appends `f v` to a
projection `π` of the state (and neither prunes nor quits), the whole traversal appends
`(visitsN …).flatMap f`. -/

section exactI
variable (I : σ → Prop) (π : σ → List β) (f : Visit α → List β)
  (hev : ∀ v s, I s → I (ev v s).2 ∧ (ev v s).1.prune = false ∧ (ev v s).1.quit = false ∧ π (ev v s).2 = π s ++ f v)
include hev

theorem steps_exactI : Steps c ev I (fun a b l => π b = π a ++ l.flatMap f) False :=
  ⟨by simp, fun a b cc l1 l2 h1 h2 => by simp [h2, h1], fun h => h.elim,
   fun v s _ hI => ⟨(hev v s hI).1, by simp [(hev v s hI).2.2.2], by simp [(hev v s hI).2.1, (hev v s hI).2.2.1]⟩⟩

theorem refNode_exactI (rp : List Name) (d : Nat) (n : Node α) (A : Acc σ) (hI : I A.st) :
    I (refNode c ev rp d n A).2.st ∧ (refNode c ev rp d n A).1 = false ∧
      π (refNode c ev rp d n A).2.st = π A.st ++ (visitsN c rp d n).flatMap f :=
  have h := refNode_ran (steps_exactI c ev I π f hev) rp d n A hI
  ⟨h.1, by simpa using h.2.2, h.2.1⟩

theorem refKids_exactI (rp : List Name) (d : Nat) (kids : List (Node α)) (A : Acc σ) (hI : I A.st) :
    I (refKids c ev rp d kids A).2.st ∧ (refKids c ev rp d kids A).1 = false ∧
      π (refKids c ev rp d kids A).2.st = π A.st ++ (visitsK c rp d kids).flatMap f :=
  have h := refKids_ran (steps_exactI c ev I π f hev) rp d kids A hI
  ⟨h.1, by simpa using h.2.2, h.2.1⟩
end exactI

section exact
variable (π : σ → List β) (f : Visit α → List β)
  (hev : ∀ v s, (ev v s).1.prune = false ∧ (ev v s).1.quit = false ∧ π (ev v s).2 = π s ++ f v)
include hev

theorem refNode_exact (rp : List Name) (d : Nat) (n : Node α) (A : Acc σ) :
    (refNode c ev rp d n A).1 = false ∧ π (refNode c ev rp d n A).2.st = π A.st ++ (visitsN c rp d n).flatMap f :=
  (refNode_exactI c ev (fun _ => True) π f (fun v s _ => ⟨trivial, hev v s⟩) rp d n A trivial).2

theorem refKids_exact (rp : List Name) (d : Nat) (kids : List (Node α)) (A : Acc σ) :
    (refKids c ev rp d kids A).1 = false ∧ π (refKids c ev rp d kids A).2.st = π A.st ++ (visitsK c rp d kids).flatMap f :=
  (refKids_exactI c ev (fun _ => True) π f (fun v s _ => ⟨trivial, hev v s⟩) rp d kids A trivial).2
end exact

/-! ### nothing is evaluated when the depth range is empty -/

theorem steps_empty_range (h : c.minDepth > c.maxDepth) (s0 : σ) : Steps c ev (· = s0) (fun _ _ _ => True) False :=
  ⟨fun _ => trivial, fun _ _ _ _ _ _ _ => trivial, fun h => h.elim, fun v _ hr _ => by
    simp only [inRange, Bool.and_eq_true, decide_eq_true_eq] at hr; omega⟩

theorem refNode_empty_range (h : c.minDepth > c.maxDepth) (rp : List Name) (d : Nat) (n : Node α) (A : Acc σ) :
    (refNode c ev rp d n A).1 = false ∧ (refNode c ev rp d n A).2.st = A.st :=
  have h := refNode_ran (steps_empty_range c ev h A.st) rp d n A rfl
  ⟨by simpa using h.2.2, h.1⟩

theorem refKids_empty_range (h : c.minDepth > c.maxDepth) (rp : List Name) (d : Nat) (kids : List (Node α)) (A : Acc σ) :
    (refKids c ev rp d kids A).1 = false ∧ (refKids c ev rp d kids A).2.st = A.st :=
  have h := refKids_ran (steps_empty_range c ev h A.st) rp d kids A rfl
  ⟨by simpa using h.2.2, h.1⟩

/-! ### in post-order the prune mark of the evaluator is irrelevant -/

def clearPrune (ev : Visit α → σ → EvalOut × σ) : Visit α → σ → EvalOut × σ :=
  fun v s => ({ (ev v s).1 with prune := false }, (ev v s).2)

theorem visit_clearPrune (rp : List Name) (d : Nat) (n : Node α) (A : Acc σ) :
    (visit c (clearPrune ev) rp d n A).2 = (visit c ev rp d n A).2 := by
  unfold visit clearPrune
  cases inRange c d <;> rfl

mutual
theorem refNode_prune_noop (hpost : c.depthFirst = true) (rp : List Name) (d : Nat) (n : Node α) (A : Acc σ) :
    refNode c (clearPrune ev) rp d n A = refNode c ev rp d n A := by
  match n with
  | .leaf nm k a =>
    rw [refNode, refNode]
    simp only [visit_clearPrune]
  | .dir nm l r a kids =>
    rw [refNode, refNode]
    simp only [hpost, if_true, visit_clearPrune, fun A' => refKids_prune_noop hpost rp (d + 1) kids A']
theorem refKids_prune_noop (hpost : c.depthFirst = true) (rp : List Name) (d : Nat) (kids : List (Node α)) (A : Acc σ) :
    refKids c (clearPrune ev) rp d kids A = refKids c ev rp d kids A := by
  match kids with
  | [] => rfl
  | n :: ns =>
    rw [refKids, refKids, refNode_prune_noop hpost (n.name :: rp) d n A]
    simp only [refKids_prune_noop hpost rp d ns]
end

/-! ### the same for the walk itself

`refNode_ran` carried over `processRoot_ref`: statements about what `process_dir` does over
walkdir's iterator, with no mention of the reference. -/

theorem pruneOk_of_never (h : ∀ v s, (ev v s).1.prune = false) : PruneOk c ev :=
  fun v s hp => by rw [h] at hp; cases hp

theorem processRoot_ran {I : σ → Prop} {T : σ → σ → List (Visit α) → Prop} {W : Prop} (h : Steps c ev I T W)
    (root : Node α) (hp : c.depthFirst = false → PruneOkN c ev [] 0 root) (acc : σ) (hI : I acc) :
    I (processRoot c ev root acc).st ∧ T acc (processRoot c ev root acc).st (visitsN c [] 0 root) ∧
      ((processRoot c ev root acc).quit = true → W) := by
  rw [processRoot_ref c ev root hp]
  exact refNode_ran h [] 0 root ⟨acc, 0, 0⟩ hI

theorem processRoot_exact (π : σ → List β) (f : Visit α → List β)
    (hev : ∀ v s, (ev v s).1.prune = false ∧ (ev v s).1.quit = false ∧ π (ev v s).2 = π s ++ f v)
    (root : Node α) (acc : σ) :
    π (processRoot c ev root acc).st = π acc ++ (visitsN c [] 0 root).flatMap f ∧ (processRoot c ev root acc).quit = false :=
  have h := processRoot_ran c ev (steps_exactI c ev (fun _ => True) π f fun v s _ => ⟨trivial, hev v s⟩) root
    (fun _ => pruneOkN_of_pruneOk c ev (pruneOk_of_never c ev fun v s => (hev v s).1) [] 0 root) acc trivial
  ⟨h.2.1, by simpa using h.2.2⟩

end FuModel.Find.Walk
