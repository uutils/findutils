import FuModel.Proofs.Expr

/-!
# The converse of C01_parse: every token string the builder accepts is a sentence (C11)

`run` is followed with a ghost copy of its state in which the syntax read so far is kept as
syntax (`G`: the closed comma members, the closed and-groups of the open or-group, the factors of
the open and-group, and the pending `-a` / `!`s).  `G.render` is the token string the frame has
consumed, `renderStack` that of the suspended outer frames.  The invariant says the ghost is a
well-formed prefix; at the end of the input the ghost is a syntax tree of the grammar whose
rendering is exactly the input.
-/
namespace FuModel.Find.Expr
variable {P : Type}

def nots : Nat → X P → X P
  | 0, x => x
  | n + 1, x => .not (nots n x)

structure G (P : Type) where
  ors : List (List (List (X P)))
  ands : List (List (X P))
  cur : List (X P)
  bangs : Nat
  pa : Bool

def G.empty : G P := ⟨[], [], [], 0, false⟩
def G.factor (g : G P) (x : X P) : X P := if g.pa then .a (nots g.bangs x) else nots g.bangs x
def G.push (g : G P) (x : X P) : G P := { g with cur := g.cur ++ [g.factor x], bangs := 0, pa := false }
/-- the ghost after an operator: what `St.after` does to the builder, in syntax -/
def G.after (g : G P) : Tok P → G P
  | .bang => { g with bangs := g.bangs + 1 }
  | .or_ => { g with ands := g.ands ++ [g.cur], cur := [] }
  | .comma => { g with ors := g.ors ++ [g.ands ++ [g.cur]], ands := [], cur := [] }
  | _ => { g with pa := true }
def sepO (o : List (List (X P))) : List (Tok P) := renderO o ++ [.comma]
def sepA (a : List (X P)) : List (Tok P) := renderA a ++ [.or_]
def G.pending (g : G P) : List (Tok P) := (if g.pa then [.and_] else []) ++ List.replicate g.bangs .bang
def G.render (g : G P) : List (Tok P) :=
  g.ors.flatMap sepO ++ (g.ands.flatMap sepA ++ (renderA g.cur ++ g.pending))
def G.done (g : G P) : List (List (List (X P))) := g.ors ++ [g.ands ++ [g.cur]]
def renderStack : List (G P) → List (Tok P)
  | [] => []
  | g :: rest => renderStack rest ++ (g.render ++ [.lp])

theorem render_empty : (G.empty : G P).render = [] := rfl

theorem renderA_append (xs ys : List (X P)) : renderA (xs ++ ys) = renderA xs ++ renderA ys := by
  induction xs with
  | nil => rfl
  | cons x xs ih => rw [List.cons_append, renderA, renderA, ih, List.append_assoc]

theorem renderF_nots (n : Nat) (x : X P) : renderF (nots n x) = List.replicate n .bang ++ renderF x := by
  induction n with
  | zero => rfl
  | succ n ih => rw [nots, renderF, ih]; rfl

theorem renderO_snoc (as : List (List (X P))) (c : List (X P)) : renderO (as ++ [c]) = as.flatMap sepA ++ renderA c :=
  snoc_of_cons2 (fun _ => rfl) (fun _ _ _ => rfl) as c

theorem renderL_snoc (os : List (List (List (X P)))) (o : List (List (X P))) :
    renderL (os ++ [o]) = os.flatMap sepO ++ renderO o :=
  snoc_of_cons2 (fun _ => rfl) (fun _ _ _ => rfl) os o

theorem render_factor (g : G P) (x : X P) : renderF (g.factor x) = g.pending ++ renderF x := by
  unfold G.factor G.pending
  cases g.pa <;> simp [renderF, renderF_nots]

theorem render_push (g : G P) (x : X P) (ts : List (Tok P)) : (g.push x).render ++ ts = g.render ++ (renderF x ++ ts) := by
  simp [G.render, G.push, G.pending, renderA_append, renderA, render_factor]

theorem render_done (g : G P) (hb : g.bangs = 0) (hp : g.pa = false) : renderL g.done = g.render := by
  simp [G.done, G.render, G.pending, renderL_snoc, renderO_snoc, hb, hp]

theorem wfF_nots (n : Nat) (x : X P) : wfF (nots n x) = wfF x := by
  induction n with
  | zero => rfl
  | succ n ih => exact ih

theorem wfA_snoc (xs : List (X P)) (y : X P) (h : xs ≠ []) : wfA (xs ++ [y]) = (wfA xs && wfItem y) := by
  match xs, h with
  | x :: xs, _ => simp [wfA, wfRest_eq, Bool.and_assoc]

/-- `x` is a primary or a group -/
def plain : X P → Bool
  | .prim _ => true
  | .group _ => true
  | _ => false

theorem wfItem_factor (g : G P) (x : X P) (hx : plain x = true) : wfItem (g.factor x) = wfF x := by
  unfold G.factor
  cases g.pa
  · cases g.bangs with
    | zero => match x, hx with
      | .prim _, _ | .group _, _ => rfl
    | succ n => exact wfF_nots n x
  · exact wfF_nots _ x

theorem wfF_factor (g : G P) (x : X P) (hp : g.pa = false) : wfF (g.factor x) = wfF x := by
  rw [G.factor, hp]; exact wfF_nots _ x

/-- builder frame and ghost agree, and what the ghost has closed is well formed -/
structure FrameOk (s : St P) (g : G P) : Prop where
  c1 : s.cur.isEmpty = g.cur.isEmpty
  c2 : s.pend = false → g.bangs = 0 ∧ g.pa = false   -- where no operator waits, the ghost holds no `!` or `-a` back
  c3 : g.pa = true → g.cur ≠ []                       -- `-a` was read after a factor
  c4o : g.ors.all wfO = true
  c4a : g.ands.all wfA = true
  c4c : g.cur ≠ [] → wfA g.cur = true

def SRel : List (St P) → List (G P) → Prop
  | [], [] => True
  | s :: ss, g :: gs => FrameOk s g ∧ SRel ss gs
  | _, _ => False

/-- the open frame against the rest of the input -/
structure InputOk (s : St P) (g : G P) (f : Bool) (stack : List (St P)) (rest : List (Tok P)) : Prop where
  c6 : s.pend = true → moreExprs rest = true   -- `run` looked ahead before it let the operator pass
  -- an empty open and-group with no operator waiting: nothing of this frame has been read, its `(` was the last token
  c5 : g.cur = [] → s.pend = false → g.ors = [] ∧ g.ands = [] ∧ (stack ≠ [] → f = true)

variable {s : St P} {g : G P}

theorem frameOk_empty : FrameOk (St.empty : St P) G.empty := ⟨rfl, fun _ => ⟨rfl, rfl⟩, nofun, rfl, rfl, nofun⟩

theorem FrameOk.cur_ne (h : FrameOk s g) (hs : s.cur ≠ []) : g.cur ≠ [] := fun hc =>
  hs (List.isEmpty_iff.1 (h.c1.trans (hc ▸ rfl)))

theorem FrameOk.wfL_done (h : FrameOk s g) (hc : g.cur ≠ []) : wfL g.done = true := by
  simp [G.done, wfL_eq, wfO_eq, h.c4o, h.c4a, h.c4c hc]

/-- pushing a primary or a completed group -/
theorem FrameOk.push (h : FrameOk s g) (m : M P) {x : X P} (hx : plain x = true) (hw : wfF x = true) :
    FrameOk (s.push m) (g.push x) := by
  refine ⟨by simp [St.push, G.push], fun _ => ⟨rfl, rfl⟩, nofun, h.c4o, h.c4a, fun _ => ?_⟩
  by_cases hc : g.cur = []
  · have hp : g.pa = false := Bool.eq_false_iff.2 fun hpa => h.c3 hpa hc
    simp [G.push, hc, wfA, wfRest, wfF_factor g x hp, hw]
  · rw [G.push, wfA_snoc _ _ hc, h.c4c hc, wfItem_factor g x hx, hw]; rfl

/-- an operator the builder lets pass -/
theorem FrameOk.after (h : FrameOk s g) (op : Tok P) (hop : op.isOp = true)
    (hb : op.isBinary = true → s.cur ≠ [] ∧ s.pend = false) : FrameOk (s.after op) (g.after op) := by
  have c2 : (s.after op).pend = false → (g.after op).bangs = 0 ∧ (g.after op).pa = false := fun hp => by
    rw [St.after_pend] at hp; cases hp
  have hcur := fun hbin => h.cur_ne (hb hbin).1
  have c3 : op.isBinary = true → g.pa = true → (g.after op).cur ≠ [] := fun hbin hp =>
    absurd ((h.c2 (hb hbin).2).2.symm.trans hp) Bool.false_ne_true
  cases op with
  | bang => exact ⟨h.c1, c2, h.c3, h.c4o, h.c4a, h.c4c⟩
  | and_ => exact ⟨h.c1, c2, fun _ => hcur rfl, h.c4o, h.c4a, h.c4c⟩
  | or_ => exact ⟨rfl, c2, c3 rfl, h.c4o, by simp [G.after, h.c4a, h.c4c (hcur rfl)], nofun⟩
  | comma => exact ⟨rfl, c2, c3 rfl, by simp [G.after, wfO_eq, h.c4o, h.c4a, h.c4c (hcur rfl)], rfl, nofun⟩
  | _ => cases hop

theorem render_after (h : FrameOk s g) (op : Tok P) (hop : op.isOp = true)
    (hb : op.isBinary = true → s.cur ≠ [] ∧ s.pend = false) (ts : List (Tok P)) :
    (g.after op).render ++ ts = g.render ++ op :: ts := by
  have hp := fun hbin => h.c2 (hb hbin).2
  cases op with
  | bang => simp [G.after, G.render, G.pending, List.replicate_succ']; rfl
  | and_ => simp [G.after, G.render, G.pending, hp rfl]
  | or_ => simp [G.after, G.render, G.pending, hp rfl, sepA, renderA]
  | comma => simp [G.after, G.render, G.pending, hp rfl, sepO, renderO_snoc, renderA]
  | _ => cases hop

theorem inputOk_push (m : M P) (x : X P) (stack : List (St P)) (rest : List (Tok P)) :
    InputOk (s.push m) (g.push x) false stack rest :=
  ⟨nofun, fun h => (by simp [G.push] at h)⟩

theorem InputOk.pend_false {f : Bool} {stack : List (St P)} {rest : List (Tok P)} (h : InputOk s g f stack rest)
    (hm : moreExprs rest = false) : s.pend = false :=
  Bool.eq_false_iff.2 fun hp => Bool.false_ne_true (hm.symm.trans (h.c6 hp))

theorem run_conv (ts : List (Tok P)) : ∀ (stack : List (St P)) (s : St P) (f : Bool) (gs : List (G P)) (g : G P) (m : M P),
    run ts stack s f = .ok m → SRel stack gs → FrameOk s g → InputOk s g f stack ts →
    (renderStack gs ++ (g.render ++ ts) = []) ∨
      ∃ l, wfL l = true ∧ renderL l = renderStack gs ++ (g.render ++ ts) := by
  induction ts with
  | nil =>
    intro stack s f gs g m h hS hF hI
    cases stack with
    | cons _ _ => cases h
    | nil =>
      cases gs with
      | cons _ _ => cases hS
      | nil =>
        have hpend := hI.pend_false rfl
        obtain ⟨hb, hpa⟩ := hF.c2 hpend
        by_cases hc : g.cur = []
        · obtain ⟨ho, ha, _⟩ := hI.c5 hc hpend
          exact .inl (by simp [renderStack, G.render, G.pending, ho, ha, hc, hb, hpa, renderA])
        · exact .inr ⟨g.done, hF.wfL_done hc, by simp [renderStack, render_done g hb hpa]⟩
  | cons t ts ih =>
    intro stack s f gs g m h hS hF hI
    cases t with
    | prim p =>
      rw [← show renderF (.prim p) ++ ts = .prim p :: ts from rfl, ← render_push]
      exact ih stack _ false gs _ m h hS (hF.push (.prim p) (x := .prim p) rfl rfl) (inputOk_push ..)
    | bang | and_ | or_ | comma =>
      obtain ⟨hm, hb, h⟩ := run_op_ok rfl h
      rw [← render_after hF _ rfl hb]
      exact ih stack _ false gs _ m h hS (hF.after _ rfl hb) ⟨fun _ => hm, fun _ hp => by rw [St.after_pend] at hp; cases hp⟩
    | lp =>
      rw [show renderStack gs ++ (g.render ++ .lp :: ts) = renderStack (g :: gs) ++ ((G.empty : G P).render ++ ts) by
        simp [renderStack, render_empty]]
      exact ih (s :: stack) St.empty true (g :: gs) G.empty m h ⟨hF, hS⟩ frameOk_empty
        ⟨nofun, fun _ _ => ⟨rfl, rfl, fun _ => rfl⟩⟩
    | rp =>
      cases stack with
      | nil => cases h
      | cons outer stack' =>
        cases gs with
        | nil => cases hS
        | cons go gs' =>
          cases f with
          | true => cases h
          | false =>
            have hpend := hI.pend_false rfl
            obtain ⟨hb, hpa⟩ := hF.c2 hpend
            have hcur : g.cur ≠ [] := fun hc => Bool.false_ne_true ((hI.c5 hc hpend).2.2 nofun)
            rw [show renderStack (go :: gs') ++ (g.render ++ .rp :: ts) =
                renderStack gs' ++ ((go.push (.group g.done)).render ++ ts) by
              simp [render_push, renderF, render_done g hb hpa, renderStack]]
            exact ih stack' _ false gs' _ m h hS.2 (hS.1.push s.build (x := .group g.done) rfl (hF.wfL_done hcur))
              (inputOk_push ..)

/-- **Every token string the tree builder accepts is a sentence of the grammar** (or empty):
    the converse of `C01_parse`. -/
theorem buildTree_sentence (ts : List (Tok P)) (m : M P) (h : buildTree ts = .ok m) :
    ts = [] ∨ ∃ l, WF l ∧ renderL l = ts :=
  run_conv ts [] St.empty false [] G.empty m h trivial frameOk_empty ⟨nofun, fun _ _ => ⟨rfl, rfl, fun hne => absurd rfl hne⟩⟩

end FuModel.Find.Expr
