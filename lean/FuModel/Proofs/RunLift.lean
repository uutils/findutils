import FuModel.Proofs.WalkRef
import FuModel.Proofs.PrimKinds

/-!
# From one primary to a whole starting point

Every whole-walk theorem about an action has the same three layers: what the expression does on one
entry (`M.eval` over `sem`), `process_dir`'s bookkeeping around it (`enterDir` before the
expression, `finishDir` after the walk — both only dispatch open `+` batches and set `curDir`), and
the traversal.  Here the last two are done once (`processDir_ran`), for any projection `π` of the
state that the bookkeeping does not show in (`Book`) and any relation on its values that composes
along the visited entries; `processDir_log` is the case where the expression appends to `π` at most
what `f v` allows, `processDir_exact` the one where it appends exactly `f v` and never prunes or quits.
-/

namespace FuModel.Find.Run
open FuModel.Find.Walk FuModel.Find.Expr

/-! ### `process_dir`'s bookkeeping around the expression -/

/-- before the expression: when the directory changes, `finished_dir` of the one left -/
def enterDir (m : M Prim) (dir : Option Bytes) (g : GS) : GS × Bool :=
  if dir != g.curDir then
    let r := match g.curDir with
      | some d => flushMultis true d (M.multis m) g false
      | none => (g, false)
    ({ r.1 with curDir := dir }, r.2)
  else (g, false)

theorem evalEntry_eq (m : M Prim) (start : Bytes) (v : Visit Attr) (g : GS) :
    evalEntry m start v g =
      (let e := enterDir m (FuModel.Path.parent (pathOf start v.ent.rpath)) g
       let r := M.eval (sem start v) (·.quit) m ⟨e.1, false, false, if e.2 then 1 else 0⟩
       (⟨r.2.prune, r.2.quit, r.2.exit⟩, r.2.gs)) := rfl

/-- the data of a `+` primary, as `M.multis` lists it -/
abbrev Multi := Nat × Bool × Bool × Bytes × List Bytes

/-- `run_command` on the open batch `b` of the `+` primary `x`, which is closed afterwards -/
def flushOne (g : GS) (x : Multi) (b : Batch) (cwd : Option Bytes) : GS :=
  setPending (runBatch g x.2.2.1 x.2.2.2.1 x.2.2.2.2 b cwd).1 x.1 none

section keeps
variable (Q : GS → Prop) (ms : List Multi)
  (hf : ∀ g x b cwd, x ∈ ms → g.pending.lookup x.1 = some b → Q g → Q (flushOne g x b cwd))
include hf

theorem flushMultis_keeps (e : Bool) (d : Bytes) (g : GS) (failed : Bool) (h : Q g) : Q (flushMultis e d ms g failed).1 := by
  induction ms generalizing g failed with
  | nil => exact h
  | cons x xs ih =>
    have ih' := ih fun g y b cwd hy => hf g y b cwd (List.mem_cons_of_mem _ hy)
    simp only [flushMultis]
    split
    · split
      · exact ih' _ _ (hf g x _ _ (List.mem_cons_self ..) ‹_› h)
      · exact ih' _ _ h
    · exact ih' _ _ h

theorem flushAll_keeps (g : GS) (failed : Bool) (h : Q g) : Q (flushAll ms g failed).1 := by
  induction ms generalizing g failed with
  | nil => exact h
  | cons x xs ih =>
    have ih' := ih fun g y b cwd hy => hf g y b cwd (List.mem_cons_of_mem _ hy)
    simp only [flushAll]
    split
    · exact ih' _ _ (hf g x _ _ (List.mem_cons_self ..) ‹_› h)
    · exact ih' _ _ h

end keeps

/-- `I` and `π` survive the bookkeeping: a change of `curDir`, and the dispatch of the open batch of
    one of the `+` primaries of `m` -/
structure Book {γ : Type} (m : M Prim) (I : GS → Prop) (π : GS → γ) : Prop where
  cur : ∀ g d, I g → I { g with curDir := d } ∧ π { g with curDir := d } = π g
  flush : ∀ g x b cwd, x ∈ M.multis m → g.pending.lookup x.1 = some b → I g →
    I (flushOne g x b cwd) ∧ π (flushOne g x b cwd) = π g

section book
variable {γ : Type} {m : M Prim} {I : GS → Prop} {π : GS → γ} (hb : Book m I π)
include hb

theorem Book.flushes (g0 : GS) (g : GS) (x : Multi) (b : Batch) (cwd : Option Bytes) (hx : x ∈ M.multis m)
    (hl : g.pending.lookup x.1 = some b) (h : I g ∧ π g = π g0) : I (flushOne g x b cwd) ∧ π (flushOne g x b cwd) = π g0 :=
  ⟨(hb.flush g x b cwd hx hl h.1).1, (hb.flush g x b cwd hx hl h.1).2.trans h.2⟩

theorem Book.enter (dir : Option Bytes) (g : GS) (hI : I g) : I (enterDir m dir g).1 ∧ π (enterDir m dir g).1 = π g := by
  unfold enterDir
  split
  · cases g.curDir with
    | none => exact hb.cur g dir hI
    | some d =>
      have h1 := flushMultis_keeps (fun g' => I g' ∧ π g' = π g) _ (hb.flushes g) true d g false ⟨hI, rfl⟩
      exact ⟨(hb.cur _ dir h1.1).1, (hb.cur _ dir h1.1).2.trans h1.2⟩
  · exact ⟨hI, rfl⟩

theorem Book.finish (g : GS) (hI : I g) : I (finishDir m g).1 ∧ π (finishDir m g).1 = π g := by
  unfold finishDir
  have h1 : (fun g' => I g' ∧ π g' = π g)
      (match g.curDir with | some d => flushMultis true d (M.multis m) g false | none => (g, false)).1 := by
    cases g.curDir with
    | none => exact ⟨hI, rfl⟩
    | some d => exact flushMultis_keeps _ _ (hb.flushes g) true d g false ⟨hI, rfl⟩
  have h2 := fun failed => flushAll_keeps _ _ (hb.flushes g) _ failed h1
  exact ⟨(hb.cur _ none (h2 _).1).1, (hb.cur _ none (h2 _).1).2.trans (h2 _).2⟩

end book

/-- without a `+` primary there is nothing to dispatch -/
theorem Book.of_nil {γ : Type} {m : M Prim} {I : GS → Prop} {π : GS → γ} (hm : M.multis m = [])
    (hc : ∀ g d, I g → I { g with curDir := d } ∧ π { g with curDir := d } = π g) : Book m I π :=
  ⟨hc, fun _ _ _ _ hx => by rw [hm] at hx; cases hx⟩

/-! ### the traversal -/

/-- an expression without `-prune` never marks an entry: the pre-order hypothesis `PruneOk` of the
    refinement (and of the whole-walk theorems) holds for it, whatever the tree -/
theorem pruneOk_of_noPrune (c : RefCfg) (m : M Prim) (hall : m.AllP (fun p => notPrune p = true)) (start : Bytes) :
    PruneOk c (evalEntry m start) := by
  intro v s hp
  rw [evalEntry_eq] at hp
  simp only [eval_keeps_prune m hall] at hp
  cases hp

section lift
variable (c : Config) (m : M Prim) (start : Bytes) (root : Node Attr)

/-- when `process_dir` over walkdir's iterator is the reference traversal: post-order, or a tree on
    which the expression prunes only directories the walk entered -/
def WalkOk : Prop :=
  (refCfg c).depthFirst = false → PruneOkN (refCfg c) (evalEntry m start) [] 0 (if c.sorted then sortNode root else root)

variable {c m start root} in
theorem WalkOk.of_or (h : ((refCfg c).depthFirst = false ∧ PruneOkN (refCfg c) (evalEntry m start) [] 0 (if c.sorted then sortNode root else root)) ∨
    (refCfg c).depthFirst = true) : WalkOk c m start root :=
  fun hd => h.elim And.right fun h => by rw [hd] at h; cases h

variable {c m start root} in
theorem WalkOk.of_noPrune (hnp : m.AllP (fun p => notPrune p = true)) : WalkOk c m start root :=
  fun _ => pruneOkN_of_pruneOk _ _ (pruneOk_of_noPrune _ m hnp start) [] 0 _

variable {γ β : Type} (I : GS → Prop)

/-- **From one entry to a starting point.**  `T x y l`: the value of `π` went from `x` to `y` while
    (some of) the entries `l` were evaluated; `W`: `T` tolerates entries left out (`Steps.cut`).  If
    one evaluation of the expression on `v` is a `T`-step along `[v]` (and prunes or quits only if
    `W`), the walk of a starting point is a `T`-step along `visitsN`. -/
theorem processDir_ran (π : GS → γ) (T : γ → γ → List (Visit Attr) → Prop) (W : Prop) (hb : Book m I π)
    (hr : ∀ x, T x x []) (ht : ∀ x y z l1 l2, T x y l1 → T y z l2 → T x z (l1 ++ l2))
    (hc : W → ∀ x y l l', T x y l → T x y (l ++ l'))
    (hev : ∀ v s, I s.gs → s.prune = false → s.quit = false →
      let r := (M.eval (sem start v) (·.quit) m s).2
      I r.gs ∧ T (π s.gs) (π r.gs) [v] ∧ (r.prune = true ∨ r.quit = true → W))
    (hw : WalkOk c m start root) (g : GS) (hI : I g) :
    let r := processDir c m start (some root) g
    I r.gs ∧ T (π g) (π r.gs) (visitsN (refCfg c) [] 0 (if c.sorted then sortNode root else root)) ∧ (r.quit = true → W) := by
  have h0 := hb.cur g none hI
  have h1 := processRoot_ran (refCfg c) (evalEntry m start) (I := I) (T := fun a b l => T (π a) (π b) l) (W := W)
    ⟨fun _ => hr _, fun _ _ _ _ _ => ht _ _ _ _ _, fun hW _ _ _ _ => hc hW _ _ _ _, fun v s _ hs => by
      have he := hb.enter (FuModel.Path.parent (pathOf start v.ent.rpath)) s hs
      rw [evalEntry_eq]
      generalize enterDir m _ s = e at he ⊢
      have := hev v ⟨e.1, false, false, if e.2 then 1 else 0⟩ he.1 rfl rfl
      exact ⟨this.1, he.2 ▸ this.2.1, this.2.2⟩⟩
    (if c.sorted then sortNode root else root) hw { g with curDir := none } h0.1
  have h2 := hb.finish _ h1.1
  refine ⟨h2.1, ?_, h1.2.2⟩
  show T (π g) (π (finishDir m _).1) _
  rw [h2.2]
  exact h0.2 ▸ h1.2.1

variable (π : GS → List β) (f : Visit Attr → List β)

/-- **Whatever the expression appends to `π` entry by entry, `process_dir` appends in visit order.**
    If the bookkeeping does not show in `π` and one evaluation of the expression on `v` appends to
    `π` a sublist of `f v`, the walk of a starting point appends a sublist of `f` over `visitsN`. -/
theorem processDir_log (hb : Book m I π)
    (hev : ∀ v s, AppLog (fun s : ES => I s.gs) (fun s => π s.gs) s (M.eval (sem start v) (·.quit) m s).2 (f v))
    (hw : WalkOk c m start root) (g : GS) :
    AppLog I π g (processDir c m start (some root) g).gs
      ((visitsN (refCfg c) [] 0 (if c.sorted then sortNode root else root)).flatMap f) := fun hI =>
  have h := processDir_ran c m start root I π (fun x y l => ∃ L, y = x ++ L ∧ L.Sublist (l.flatMap f)) True hb
    (fun _ => ⟨[], by simp⟩)
    (fun _ _ _ _ _ ⟨L1, e1, s1⟩ ⟨L2, e2, s2⟩ => ⟨L1 ++ L2, by simp [e2, e1], List.flatMap_append ▸ s1.append s2⟩)
    (fun _ _ _ _ _ ⟨L, e, s⟩ => ⟨L, e, List.flatMap_append ▸ s.trans (List.sublist_append_left _ _)⟩)
    (fun v s hs _ _ => ⟨(hev v s hs).1, by simpa using (hev v s hs).2, fun _ => trivial⟩) hw g hI
  ⟨h.1, h.2.1⟩

/-- **If it appends exactly `f v`, and never prunes or quits, `process_dir` appends `f` over `visitsN`.** -/
theorem processDir_exact (hb : Book m I π) (hnp : m.AllP (fun p => notPrune p = true))
    (hev : ∀ v s, I s.gs → s.quit = false →
      let r := M.eval (sem start v) (·.quit) m s
      I r.2.gs ∧ r.2.quit = false ∧ π r.2.gs = π s.gs ++ f v)
    (g : GS) (hI : I g) :
    let r := processDir c m start (some root) g
    I r.gs ∧ π r.gs = π g ++ (visitsN (refCfg c) [] 0 (if c.sorted then sortNode root else root)).flatMap f ∧ r.quit = false :=
  have h := processDir_ran c m start root I π (fun x y l => y = x ++ l.flatMap f) False hb
    (by simp) (fun _ _ _ _ _ h1 h2 => by simp [h2, h1]) (fun h => h.elim)
    (fun v s hs hp hq => ⟨(hev v s hs hq).1, by simpa using (hev v s hs hq).2.2, by
      simp [eval_keeps_prune m hnp, hp, (hev v s hs hq).2.1]⟩)
    (.of_noPrune hnp) g hI
  ⟨h.1, h.2.1, by simpa using h.2.2⟩

/-- **`EXPR ACTION` with `EXPR` made of tests**, for an action that appends `act v` to `π`: over the
    walk of a starting point `π` grows by `act v` for exactly the entries on which `EXPR` is true. -/
theorem processDir_guarded (mt : M Prim) (ht : TestsOnly mt) (a : Prim) (hna : notPrune a = true) (act : Visit Attr → List β)
    (hb : Book (.and [mt, .prim a]) I π)
    (hact : ∀ v s, I s.gs →
      I (sem start v a s).2.gs ∧ (sem start v a s).2.quit = s.quit ∧ π (sem start v a s).2.gs = π s.gs ++ act v)
    (g : GS) (hI : I g) :
    let r := processDir c (.and [mt, .prim a]) start (some root) g
    I r.gs ∧
      π r.gs = π g ++ (visitsN (refCfg c) [] 0 (if c.sorted then sortNode root else root)).flatMap
        (fun v => if truthM start v mt then act v else []) ∧
      r.quit = false :=
  processDir_exact c _ start root I π _ hb (allP_guarded ht (fun _ => notPrune_of_test) hna)
    (fun v s hs hq => by
      rw [eval_guarded start v mt ht a s hq]
      cases truthM start v mt
      · simpa using ⟨hs, hq⟩
      · have := hact v s hs
        exact ⟨this.1, this.2.1.trans hq, this.2.2⟩)
    g hI

end lift

end FuModel.Find.Run
