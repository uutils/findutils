import FuModel.Proofs.RunLift

/-!
# `-prune` takes effect only on directories the walk entered

`PruneMatcher` marks an entry whose own type is "directory"; `process_dir` acts on the mark
unless (`-xdev`) the directory lies on another device than its starting point, where walkdir
yielded it without pushing its listing (`cutRoot`).  Whatever the expression, a prune request
leaves the evaluation of an entry only for an entry of that kind.
-/
namespace FuModel.Find.Run
open FuModel.Find.Walk FuModel.Find.Expr

/-- a directory by its own type that `-xdev` did not cut off -/
def enteredDir (v : Visit Attr) : Bool := fileType v == 'd' && !(attrOf v).foreign

theorem allPs_true (ms : List (M Prim)) : M.AllP.AllPs (fun _ => True) ms := M.allPs_true ms

theorem sem_prune_entered (start : Bytes) (v : Visit Attr) (p : Prim) (s : ES) :
    (sem start v p s).2.prune = true → s.prune = true ∨ enteredDir v = true := by
  by_cases hp : notPrune p = true
  · exact fun h => .inl ((sem_frame start v p s).2.1 hp ▸ h)
  · cases p <;> simp [notPrune] at hp
    show (if enteredDir v = true then { s with prune := true } else s).prune = true → _
    cases enteredDir v
    · exact .inl
    · exact fun _ => .inr rfl

theorem eval_prune_entered (m : M Prim) (start : Bytes) (v : Visit Attr) (s : ES) :
    (M.eval (sem start v) (·.quit) m s).2.prune = true → s.prune = true ∨ enteredDir v = true :=
  rel_M (sem start v) (·.quit) (fun a b => b.prune = true → a.prune = true ∨ enteredDir v = true) (fun _ => Or.inl)
    (fun _ _ _ h1 h2 hc => (h2 hc).elim h1 Or.inr) (fun p s => sem_prune_entered start v p s) m s

/-- **Whatever the expression**, `process_dir` is asked to skip the listing of an entry only when
    the entry is a directory by its own type and was not cut off by `-xdev`. -/
theorem evalEntry_prune_entered (m : M Prim) (start : Bytes) (v : Visit Attr) (g : GS) :
    (evalEntry m start v g).1.prune = true → enteredDir v = true := fun h =>
  (eval_prune_entered m start v _ h).elim (fun h' => nomatch h') id

/-- how the entry's type relates to what the walk did with it (walkdir pushes the listing of a
    real directory, of a followed link to one, and of a starting point that is one under `-H`/`-L`):
    the condition a well-formed world satisfies at every visit -/
def VisitTyped (c : RefCfg) (v : Visit Attr) : Prop :=
  match v.ent.node with
  | .dir _ l _ _ _ => (l && !c.follows v.ent.depth) = true → fileType v ≠ 'd'
  | .leaf _ _ a => fileType v = 'd' → a.foreign = true

/-- on such visits a prune request concerns exactly a directory whose listing the walk pushed:
    the pre-order hypothesis `PruneOk` of C03's refinement, visit by visit -/
theorem prune_only_pushed (c : RefCfg) (m : M Prim) (start : Bytes) (v : Visit Attr) (g : GS)
    (hv : VisitTyped c v) (h : (evalEntry m start v g).1.prune = true) :
    match v.ent.node with
    | .dir _ l _ _ _ => (!l || c.follows v.ent.depth) = true
    | .leaf _ _ _ => False := by
  have he := evalEntry_prune_entered m start v g h
  simp only [enteredDir, Bool.and_eq_true, beq_iff_eq, Bool.not_eq_true'] at he
  unfold VisitTyped at hv
  cases hn : v.ent.node with
  | leaf nm k a =>
    simp only [hn] at hv ⊢
    have := hv he.1
    have h2 : (attrOf v).foreign = false := he.2
    simp [attrOf, hn] at h2
    simp [h2] at this
  | dir nm l r a kids =>
    simp only [hn] at hv ⊢
    cases l <;> cases hf : c.follows v.ent.depth <;> simp_all


/-! ### from well-formed worlds to the hypothesis of the refinement

`wfNode` (`Find/Run.lean`) is what an observed world looks like; the driver's parser refuses anything else. -/

/-- the type an entry is seen with is one of its two recorded types, or unknown -/
theorem fileType_cases (v : Visit Attr) :
    fileType v = (attrOf v).lty ∨ fileType v = (attrOf v).sty ∨ fileType v = 'U' := by
  unfold fileType
  simp only
  cases v.explicit
  · cases v.ent.followed
    · exact .inl rfl
    · exact .inr (.inl rfl)
  · cases followAt v.follow v.ent.depth
    · exact .inl rfl
    · cases (attrOf v).sty == 'N'
      · cases (attrOf v).sty == 'L'
        · exact .inr (.inl rfl)
        · exact .inr (.inr rfl)
      · exact .inl rfl

/-- where links are not followed an entry is seen with its own type -/
theorem fileType_unfollowed (c : RefCfg) (rp : List Name) (d : Nat) (n : Node Attr) (h : c.follows d = false) :
    fileType (mkVisit c rp d n) = (attrOf (mkVisit c rp d n)).lty := by
  have h' := h
  rw [follows_iff, Bool.or_eq_false_iff] at h'
  cases n <;> simp [fileType, mkVisit, h, h'.1, h'.2]

theorem typed_leaf (c : RefCfg) (rp : List Name) (d : Nat) (nm : Name) (k : LeafKind) (a : Attr)
    (hw : (wfLeaf k a || a.foreign) = true) (hno : (k == .linkLoop && c.follows d) = false) :
    VisitTyped c (mkVisit c rp d (.leaf nm k a)) := by
  unfold VisitTyped
  rw [mkVisit_node]
  intro hft
  cases hfo : a.foreign
  · exfalso
    simp only [hfo, Bool.or_false] at hw
    have ha : attrOf (mkVisit c rp d (.leaf nm k a)) = a := by simp [attrOf, mkVisit_node]
    -- seen as a directory, one of its two types would be one
    have hc : a.lty = 'd' ∨ a.sty = 'd' := by
      have := fileType_cases (mkVisit c rp d (.leaf nm k a))
      rw [hft, ha] at this
      rcases this with h | h | h
      · exact .inl h.symm
      · exact .inr h.symm
      · cases h
    cases k
    case linkLoop =>
      -- the status of a link closing a cycle may be a directory's, but the link is not followed here
      rw [fileType_unfollowed c rp d _ (by simpa using hno), ha] at hft
      simp [wfLeaf, hft] at hw
    all_goals simp only [wfLeaf, Bool.and_eq_true, bne_iff_ne, ne_eq, beq_iff_eq] at hw
    · exact hc.elim hw.1.2 fun h => hw.1.2 (hw.2 ▸ h)
    · exact hc.elim (fun h => by simp [hw.1.1.1.1] at h) hw.1.1.1.2
    · exact hc.elim (fun h => by simp [hw.1] at h) fun h => by simp [hw.2] at h
  · rfl

theorem typed_dir (c : RefCfg) (rp : List Name) (d : Nat) (nm : Name) (l r : Bool) (a : Attr) (kids : List (Node Attr))
    (hw : wfDir l a = true) : VisitTyped c (mkVisit c rp d (.dir nm l r a kids)) := by
  unfold VisitTyped
  rw [mkVisit_node, mkVisit_depth]
  intro hl
  simp only [Bool.and_eq_true, Bool.not_eq_true'] at hl
  rw [fileType_unfollowed c rp d _ hl.2]
  simp_all [wfDir, attrOf, mkVisit]

theorem pruneOkV_of_typed (c : RefCfg) (m : M Prim) (start : Bytes) (v : Visit Attr) (hv : VisitTyped c v) :
    PruneOkV c (evalEntry m start) v := by
  intro g h
  have := prune_only_pushed c m start v g hv h
  cases hn : v.ent.node with
  | leaf nm k a => simp only [hn] at this
  | dir nm l r a kids => simp only [hn] at this ⊢; exact this

mutual
/-- a well-formed tree gives the refinement its hypothesis, whatever the expression -/
theorem pruneOkN_of_wf (c : RefCfg) (m : M Prim) (start : Bytes) (rp : List Name) (d : Nat) (n : Node Attr)
    (hw : wfNode n = true) : PruneOkN c (evalEntry m start) rp d n := by
  match n with
  | .leaf nm k a =>
    intro hno
    exact pruneOkV_of_typed c m start _ (typed_leaf c rp d nm k a (by simpa [wfNode] using hw) hno)
  | .dir nm l r a kids =>
    simp only [wfNode, Bool.and_eq_true] at hw
    exact ⟨pruneOkV_of_typed c m start _ (typed_dir c rp d nm l r a kids hw.1),
      pruneOkK_of_wf c m start rp (d + 1) kids hw.2⟩
theorem pruneOkK_of_wf (c : RefCfg) (m : M Prim) (start : Bytes) (rp : List Name) (d : Nat) (kids : List (Node Attr))
    (hw : wfNode.wfKids kids = true) : PruneOkN.PruneOkK c (evalEntry m start) rp d kids := by
  match kids with
  | [] => trivial
  | n :: ns =>
    simp only [wfNode.wfKids, Bool.and_eq_true] at hw
    exact ⟨pruneOkN_of_wf c m start (n.name :: rp) d n hw.1, pruneOkK_of_wf c m start rp d ns hw.2⟩
end

/-! `-xdev` and `-sorted` keep a tree well formed -/

mutual
theorem wf_cutNode (fl : Bool) (dev : Nat) (n : Node Attr) (hw : wfNode n = true) : wfNode (cutNode fl dev n) = true := by
  match n with
  | .leaf nm k a => simpa [cutNode] using hw
  | .dir nm l r a kids =>
    simp only [wfNode, Bool.and_eq_true] at hw
    rw [cutNode]
    cases (!l || fl) && a.s.dev != dev
    · simp only [Bool.false_eq_true, if_false, wfNode, Bool.and_eq_true]
      exact ⟨hw.1, wf_cutKids fl dev kids hw.2⟩
    · simp [wfNode]
theorem wf_cutKids (fl : Bool) (dev : Nat) (kids : List (Node Attr)) (hw : wfNode.wfKids kids = true) :
    wfNode.wfKids (cutKids fl dev kids) = true := by
  match kids with
  | [] => simp [cutKids, wfNode.wfKids]
  | n :: ns =>
    simp only [wfNode.wfKids, Bool.and_eq_true] at hw
    simp only [cutKids, wfNode.wfKids, Bool.and_eq_true]
    exact ⟨wf_cutNode fl dev n hw.1, wf_cutKids fl dev ns hw.2⟩
end

theorem wf_cutRoot (f : Follow) (n : Node Attr) (hw : wfNode n = true) : wfNode (cutRoot f n) = true := by
  match n with
  | .leaf nm k a => simpa [cutRoot] using hw
  | .dir nm l r a kids =>
    simp only [wfNode, Bool.and_eq_true] at hw
    simp only [cutRoot, wfNode, Bool.and_eq_true]
    exact ⟨hw.1, wf_cutKids _ _ kids hw.2⟩

theorem wfKids_insert (x : Node Attr) (ks : List (Node Attr)) (hx : wfNode x = true) (hk : wfNode.wfKids ks = true) :
    wfNode.wfKids (insertNode x ks) = true := by
  induction ks with
  | nil => simp [insertNode, wfNode.wfKids, hx]
  | cons k ks ih =>
    simp only [wfNode.wfKids, Bool.and_eq_true] at hk
    simp only [insertNode]
    split
    · simp [wfNode.wfKids, hx, hk.1, hk.2]
    · simp [wfNode.wfKids, hk.1, ih hk.2]

mutual
theorem wf_sortNode (n : Node Attr) (hw : wfNode n = true) : wfNode (sortNode n) = true := by
  match n with
  | .leaf nm k a => simpa [sortNode] using hw
  | .dir nm l r a kids =>
    simp only [wfNode, Bool.and_eq_true] at hw
    simp only [sortNode, wfNode, Bool.and_eq_true]
    exact ⟨hw.1, wf_sortKids kids hw.2⟩
theorem wf_sortKids (kids : List (Node Attr)) (hw : wfNode.wfKids kids = true) : wfNode.wfKids (sortKids kids) = true := by
  match kids with
  | [] => simp [sortKids, wfNode.wfKids]
  | n :: ns =>
    simp only [wfNode.wfKids, Bool.and_eq_true] at hw
    simp only [sortKids]
    exact wfKids_insert _ _ (wf_sortNode n hw.1) (wf_sortKids ns hw.2)
end

/-- the tree `process_dir` walks for a starting point: cut by `-xdev` (done by `run`), sorted by `-sorted` -/
def viewOf (c : Config) (root : Node Attr) : Node Attr :=
  let n := if c.xdev then cutRoot c.follow root else root
  if c.sorted then sortNode n else n

theorem wf_viewOf (c : Config) (root : Node Attr) (hw : wfNode root = true) : wfNode (viewOf c root) = true := by
  have h1 : wfNode (if c.xdev then cutRoot c.follow root else root) = true := by
    cases c.xdev
    · exact hw
    · exact wf_cutRoot _ _ hw
  unfold viewOf
  cases c.sorted
  · exact h1
  · exact wf_sortNode _ h1

end FuModel.Find.Run
