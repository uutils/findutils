import FuModel.Proofs.ExecLossless

/-!
# `-exec … {} +` over a whole starting point (C08)

`handed` (delivered ++ waiting) is a log that the bookkeeping does not show in (`flush_one`) and
that one evaluation of the action appends the entry's path to (`sem_multi_step`); `processDir_log`
and `processDir_guarded` do the rest, and `finished` leaves nothing waiting.
-/
namespace FuModel.Find.Run
open FuModel.Find.Walk FuModel.Find.Expr

/-- `finished()` leaves closed what was closed and closes every batch on its list -/
theorem flushAll_closed (x : Multi) (ms : List Multi) (g : GS) (failed : Bool)
    (h : x ∈ ms ∨ g.pending.lookup x.1 = none) : (flushAll ms g failed).1.pending.lookup x.1 = none := by
  induction ms generalizing g failed with
  | nil => exact h.resolve_left List.not_mem_nil
  | cons y ys ih =>
    simp only [flushAll]
    split
    · refine ih _ _ (h.elim (fun h => (List.mem_cons.1 h).elim (fun e => .inr (e ▸ lookup_setPending_none _ _)) .inl) fun h => .inr ?_)
      exact lookup_filter_none _ _ _ (.inl (by simpa [runBatch, spawn_snd] using h))
    · rename_i hn
      exact ih _ _ (h.elim (fun h => (List.mem_cons.1 h).elim (fun e => .inr (e ▸ hn)) .inl) .inr)

/-- `finished()` at the end of `process_dir` closes every batch of the expression -/
theorem processDir_pending (c : Config) (m : M Prim) (start : Bytes) (root : Option (Node Attr)) (g : GS)
    (x : Multi) (hx : x ∈ M.multis m) :
    (processDir c m start root g).gs.pending.lookup x.1 = none := by
  cases root <;> exact flushAll_closed x _ _ _ (.inl hx)

section target
variable (id : Nat) (dir : Bool) (cmd : Bytes) (fixed : List Bytes)

/-- the expression's only command-running primary is the `+` action under study -/
def Sole (p : Prim) : Prop := quiet p = true ∨ p = .execMulti id dir true cmd fixed

abbrev target : Nat × Bool × Bool × Bytes × List Bytes := (id, dir, true, cmd, fixed)

theorem multis_sole (m : M Prim) (hall : m.AllP (Sole id dir cmd fixed)) :
    ∀ x ∈ M.multis m, x = target id dir cmd fixed :=
  multis_all hall fun p hp x hx => by
    rcases hp with hq | rfl
    · rw [multiOf_quiet hq] at hx; cases hx
    · simpa [multiOf, M.multis] using hx

theorem multis_go (ms : List (M Prim)) (hall : M.AllP.AllPs (Sole id dir cmd fixed) ms) :
    ∀ x ∈ M.multis.go ms, x = target id dir cmd fixed :=
  multis_sole id dir cmd fixed (.and ms) hall

theorem setPending_budget (g : GS) (i : Nat) (b : Option Batch) : (setPending g i b).budget = g.budget := rfl

/-- budget and the action's sequence are untouched -/
def Keeps (a b : GS) : Prop := b.budget = a.budget ∧ handed (cmd :: fixed) id b = handed (cmd :: fixed) id a

variable (start : Bytes)

/-- what the walk may do to the action's sequence while evaluating (some of) the entries `l` -/
def TW (a b : GS) (l : List (Visit Attr)) : Prop :=
  b.budget = a.budget ∧
  ((∃ nb, newBatch a.budget cmd fixed = some nb) →
    ∃ L, handed (cmd :: fixed) id b = handed (cmd :: fixed) id a ++ L ∧
      L.Sublist (l.map fun v => execPath dir (pathOf start v.ent.rpath)))

theorem keeps_TW (a b : GS) (h : Keeps id cmd fixed a b) : TW id dir cmd fixed start a b [] :=
  ⟨h.1, fun _ => ⟨[], by simp [h.2], by simp⟩⟩

/-- the bookkeeping does not show in `handed` when all `+` primaries are the action -/
theorem book_handed {m : M Prim} (hms : ∀ x ∈ M.multis m, x = target id dir cmd fixed) {I : GS → Prop}
    (hc : ∀ g d, I g → I { g with curDir := d })
    (hf : ∀ g b cwd, g.pending.lookup id = some b → I g → I (setPending (runBatch g true cmd fixed b cwd).1 id none)) :
    Book m I (handed (cmd :: fixed) id) :=
  ⟨fun g d h => ⟨hc g d h, rfl⟩, fun g _ b cwd hx hl h => by
    cases hms _ hx
    exact ⟨hf g b cwd hl h, (flush_one g id cmd fixed b cwd hl).1⟩⟩

end target

section exact
variable (id : Nat) (dir : Bool) (cmd : Bytes) (fixed : List Bytes) (B : Nat) (nb : Batch)

/-- the invariant carried through the walk: nothing has panicked, the budget is the initial one,
    and an open batch of the action has at most the room of a fresh one -/
def IX (g : GS) : Prop :=
  g.panicked = false ∧ g.budget = B ∧ ∀ b, g.pending.lookup id = some b → b.remaining ≤ nb.remaining

/-- does the path fit on a command line of its own? -/
def fitsFresh (a : Bytes) : Bool := (nb.tryArg a).isSome

/-- what fits into a batch fits into one with more room -/
theorem tryArg_mono {b : Batch} {a : Bytes} (h : (b.tryArg a).isSome = true) (hle : b.remaining ≤ nb.remaining) :
    (nb.tryArg a).isSome = true := by
  cases hn : nb.tryArg a with
  | some _ => rfl
  | none =>
    have : b.tryArg a = none :=
      (C08_refused_iff b a).2 (((C08_refused_iff nb a).1 hn).imp id fun h => Int.lt_of_le_of_lt hle h)
    simp [this] at h

/-- one evaluation of the action, exactly -/
theorem sem_multi_exact (hnb : newBatch B cmd fixed = some nb) (start : Bytes) (v : Visit Attr) (s : ES)
    (hI : IX id B nb s.gs) :
    let r := sem start v (.execMulti id dir true cmd fixed) s
    let arg := execPath dir (pathOf start v.ent.rpath)
    IX id B nb r.2.gs ∧ r.2.prune = s.prune ∧ r.2.quit = s.quit ∧
      handed (cmd :: fixed) id r.2.gs = handed (cmd :: fixed) id s.gs ++ (if fitsFresh nb arg then [arg] else []) := by
  obtain ⟨hp, hB, hrem⟩ := hI
  obtain ⟨h1, h2, h3, -⟩ := sem_multi_step start v id dir cmd fixed s nb hp (hB ▸ hnb)
  obtain ⟨g', e', hf, -⟩ := sem_multi_frame start v id dir true cmd fixed s
  -- the open batch has no more room than a fresh one, so what fits it fits a fresh one
  have hcur : ((s.gs.pending.lookup id).getD nb).remaining ≤ nb.remaining := by
    cases hl : s.gs.pending.lookup id with
    | some b => exact hrem b hl
    | none => exact Int.le_refl _
  have hfit : ∀ a, ((((s.gs.pending.lookup id).getD nb).tryArg a).isSome || (nb.tryArg a).isSome) = fitsFresh nb a := fun a => by
    cases h : (((s.gs.pending.lookup id).getD nb).tryArg a).isSome
    · rfl
    · simpa [fitsFresh] using tryArg_mono nb h hcur
  refine ⟨⟨h1, (sem_frame start v _ s).1.trans hB, fun b hb => (h2 b hb).elim (fun h => Int.le_trans h hcur) fun h => h⟩, ?_, ?_, ?_⟩
  · rw [hf]
  · rw [hf]
  · rw [h3, hfit, cond_eq_ite]

/-- what one entry contributes to the action's sequence -/
def handedBy (t : Prim) (start : Bytes) (v : Visit Attr) : List Bytes :=
  if (sem start v t es0).1 then
    (if fitsFresh nb (execPath dir (pathOf start v.ent.rpath)) then [execPath dir (pathOf start v.ent.rpath)] else [])
  else []

/-- **`find START EXPR -exec CMD FIXED {} +` (or `-execdir`), exactly**, `EXPR` being made of tests.
    For every tree, follow mode, depth range and traversal order: after `process_dir` has walked the
    starting point (walkdir's iterator, `finished_dir` at every change of directory, `finished` at
    the end) the paths delivered to started commands are what had been handed over before followed
    by exactly the paths of the in-range reachable entries on which `EXPR` is true and that fit on a
    command line of their own — in visit order, each once — and nothing is left waiting. -/
theorem whole_walk_exactM (hnb : newBatch B cmd fixed = some nb) (mt : M Prim) (ht : TestsOnly mt)
    (c : Config) (start : Bytes) (root : Node Attr) (g : GS) (hI : IX id B nb g) :
    let r := processDir c (.and [mt, .prim (.execMulti id dir true cmd fixed)]) start (some root) g
    delivered (cmd :: fixed) r.gs =
      handed (cmd :: fixed) id g ++ (visitsN (refCfg c) [] 0 (if c.sorted then sortNode root else root)).flatMap
        (fun v => if truthM start v mt then
          (if fitsFresh nb (execPath dir (pathOf start v.ent.rpath)) then [execPath dir (pathOf start v.ent.rpath)] else [])
          else []) ∧
    pendingOf id r.gs = [] := by
  intro r
  have hm := multis_guarded ht (.execMulti id dir true cmd fixed)
  have hp : pendingOf id (processDir c (.and [mt, .prim (.execMulti id dir true cmd fixed)]) start (some root) g).gs = [] := by
    simp [pendingOf, processDir_pending c _ start (some root) g (target id dir cmd fixed) (by rw [hm]; exact List.mem_singleton_self _)]
  have := (processDir_guarded c start root (IX id B nb) (handed (cmd :: fixed) id) mt ht _ rfl _
    (book_handed id dir cmd fixed (by rw [hm]; simp [multiOf, M.multis]) (fun _ _ h => h)
      (fun g b cwd _ h => ⟨(flush_frame ..).1.trans h.1, (flush_frame ..).2.trans h.2.1,
        fun b' hb' => by rw [lookup_setPending_none] at hb'; cases hb'⟩))
    (fun v s hs => by
      have := sem_multi_exact id dir cmd fixed B nb hnb start v s hs
      exact ⟨this.1, this.2.2.1, this.2.2.2⟩) g hI).2.1
  exact ⟨by simpa [handed, hp] using this, hp⟩

end exact
end FuModel.Find.Run
