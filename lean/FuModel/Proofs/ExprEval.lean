import FuModel.Proofs.Expr
import FuModel.Proofs.ExprAll

/-!
# The prescribed tree evaluates as the reference does (C01)

`eval_F` … `eval_L`: `M.eval` on `treeF`/`treesA`/`treesO`/`treesL` is `refF` … `refL`, for every meaning of the primaries;
`hasSE_F` … `hasSE_L`: `has_side_effects` on it is "contains an action"; `instr`: nothing is evaluated after quit.
-/
namespace FuModel.Find.Expr
variable {P σ : Type} (sem : P → σ → Bool × σ) (quit : σ → Bool)

def negIf (inv : Bool) (r : Bool × σ) : Bool × σ := (if inv then !r.1 else r.1, r.2)

theorem eval_wrap (inv : Bool) (m : M P) (s : σ) :
    M.eval sem quit (wrap inv m) s = negIf inv (M.eval sem quit m s) := by
  cases inv <;> simp [wrap, negIf, M.eval]

theorem eval_collapse_and (ms : List (M P)) (s : σ) :
    M.eval sem quit (collapse .and ms) s = evalAnd sem quit ms s := by
  match ms with
  | [m] => rw [evalAnd_eq, evalSeq_single]; rfl
  | [] | _ :: _ :: _ => rfl

theorem eval_collapse_or (ms : List (M P)) (s : σ) :
    M.eval sem quit (collapse .or ms) s = evalOr sem quit ms s := by
  match ms with
  | [m] => rw [evalOr_eq, evalSeq_single]; rfl
  | [] | _ :: _ :: _ => rfl

theorem eval_collapse_list (ms : List (M P)) (s : σ) :
    M.eval sem quit (collapse .list ms) s = evalList sem quit ms false s := by
  match ms with
  | [m] => rw [evalList_eq, evalSeq_single]; rfl
  | [] | _ :: _ :: _ => rfl

/-! `evalAnd` and `evalOr` ask "does the value decide?" before "quit?", the reference the other way round; where both
hold the two answers agree. -/

theorem evalAnd_cons (m : M P) (ms : List (M P)) (s : σ) :
    evalAnd sem quit (m :: ms) s =
      (let r := M.eval sem quit m s
       if quit r.2 then r else if r.1 then evalAnd sem quit ms r.2 else (false, r.2)) := by
  rw [evalAnd]
  generalize M.eval sem quit m s = r
  obtain ⟨v, t⟩ := r
  dsimp only
  cases v <;> cases quit t <;> rfl

theorem evalOr_cons (m : M P) (ms : List (M P)) (s : σ) :
    evalOr sem quit (m :: ms) s =
      (let r := M.eval sem quit m s
       if quit r.2 then r else if r.1 then (true, r.2) else evalOr sem quit ms r.2) := by
  rw [evalOr]
  generalize M.eval sem quit m s = r
  obtain ⟨v, t⟩ := r
  dsimp only
  cases v <;> cases quit t <;> rfl

theorem negIf_false (r : Bool × σ) : negIf false r = r := rfl

mutual
theorem eval_F (x : X P) (inv : Bool) (s : σ) :
    M.eval sem quit (treeF inv x) s = negIf inv (refF sem quit x s) := by
  match x with
  | .prim p => exact eval_wrap sem quit inv (.prim p) s
  | .not x => exact (eval_F x (!inv) s).trans (by cases inv <;> simp [negIf, refF])
  | .a x => exact eval_F x inv s
  | .group l => rw [treeF, eval_wrap, eval_collapse_list, eval_L l false s, refF]
theorem eval_A (g : List (X P)) (s : σ) : evalAnd sem quit (treesA g) s = refA sem quit g s := by
  match g with
  | [] => rfl
  | x :: xs => rw [treesA, evalAnd_cons, eval_F x false s, refA]; simp only [negIf_false, eval_A xs]
theorem eval_O (o : List (List (X P))) (s : σ) : evalOr sem quit (treesO o) s = refO sem quit o s := by
  match o with
  | [] => rfl
  | g :: gs => rw [treesO, evalOr_cons, eval_collapse_and, eval_A g s, refO]; simp only [eval_O gs]
theorem eval_L (l : List (List (List (X P)))) (rc : Bool) (s : σ) :
    evalList sem quit (treesL l) rc s = refL sem quit l rc s := by
  match l with
  | [] => rfl
  | o :: os => rw [treesL, evalList, eval_collapse_or, eval_O o s, refL]; simp only [eval_L os]
end

theorem eval_treeL (l : List (List (List (X P)))) (s : σ) :
    M.eval sem quit (treeL l) s = refL sem quit l false s := by
  rw [treeL, eval_collapse_list, eval_L]

/-! ### has_side_effects = "contains an action", syntactically -/

theorem hasSE_wrap (isAction : P → Bool) (inv : Bool) (m : M P) : (wrap inv m).hasSE isAction = m.hasSE isAction := by
  cases inv <;> rfl

theorem hasSE_collapse (isAction : P → Bool) (mk : List (M P) → M P)
    (hmk : ∀ ms, (mk ms).hasSE isAction = M.hasSE.hasSEs isAction ms) (ms : List (M P)) :
    (collapse mk ms).hasSE isAction = M.hasSE.hasSEs isAction ms := by
  match ms with
  | [m] => exact (Bool.or_false _).symm
  | [] | _ :: _ :: _ => exact hmk _

mutual
theorem hasSE_F (isAction : P → Bool) (x : X P) (inv : Bool) : (treeF inv x).hasSE isAction = actF isAction x := by
  match x with
  | .prim p => exact hasSE_wrap isAction inv (.prim p)
  | .not x => exact hasSE_F isAction x (!inv)
  | .a x => exact hasSE_F isAction x inv
  | .group l =>
    exact (hasSE_wrap ..).trans ((hasSE_collapse isAction .list (fun _ => rfl) _).trans (hasSE_L isAction l))
theorem hasSE_A (isAction : P → Bool) (g : List (X P)) : M.hasSE.hasSEs isAction (treesA g) = actA isAction g := by
  match g with
  | [] => rfl
  | x :: xs => exact congr (congrArg or (hasSE_F isAction x false)) (hasSE_A isAction xs)
theorem hasSE_O (isAction : P → Bool) (o : List (List (X P))) : M.hasSE.hasSEs isAction (treesO o) = actO isAction o := by
  match o with
  | [] => rfl
  | g :: gs =>
    exact congr (congrArg or ((hasSE_collapse isAction .and (fun _ => rfl) _).trans (hasSE_A isAction g))) (hasSE_O isAction gs)
theorem hasSE_L (isAction : P → Bool) (l : List (List (List (X P)))) : M.hasSE.hasSEs isAction (treesL l) = actL isAction l := by
  match l with
  | [] => rfl
  | o :: os =>
    exact congr (congrArg or ((hasSE_collapse isAction .or (fun _ => rfl) _).trans (hasSE_O isAction o))) (hasSE_L isAction os)
end

theorem hasSE_treeL (isAction : P → Bool) (l : List (List (List (X P)))) :
    (treeL l).hasSE isAction = actL isAction l :=
  (hasSE_collapse isAction .list (fun _ => rfl) _).trans (hasSE_L isAction l)

/-! ### nothing is evaluated once the state says quit -/

/-- instrumented semantics: counts the primaries evaluated in a state where quit already holds -/
def instr (p : P) (t : σ × Nat) : Bool × (σ × Nat) :=
  let r := sem p t.1
  (r.1, (r.2, if quit t.1 then t.2 + 1 else t.2))

def quit' (t : σ × Nat) : Bool := quit t.1

theorem late_M (m : M P) (t : σ × Nat) (h : quit t.1 = false) :
    (M.eval (instr sem quit) (quit' quit) m t).2.2 = t.2 :=
  hoare_M (instr sem quit) (quit' quit) (fun _ => True) (fun _ => 0) (fun t => quit t.1 = false)
    (fun a b _ => b.2 = a.2) (fun _ => rfl) (fun _ _ _ _ _ h1 h2 => h2.trans h1) (fun _ _ _ _ h _ => h)
    (fun _ _ _ _ _ hq => hq) (fun p _ t ht => by simp [instr, ht]) m (M.allP_true m) t h

theorem late_and (ms : List (M P)) (t : σ × Nat) (h : quit t.1 = false) :
    (evalAnd (instr sem quit) (quit' quit) ms t).2.2 = t.2 := late_M sem quit (.and ms) t h

theorem late_or (ms : List (M P)) (t : σ × Nat) (h : quit t.1 = false) :
    (evalOr (instr sem quit) (quit' quit) ms t).2.2 = t.2 := late_M sem quit (.or ms) t h

theorem late_list (ms : List (M P)) (rc : Bool) (t : σ × Nat) (h : quit t.1 = false) :
    (evalList (instr sem quit) (quit' quit) ms rc t).2.2 = t.2 :=
  match ms with
  | [] => rfl
  | m :: ms => late_M sem quit (.list (m :: ms)) t h

-- the instrumentation does not change what is computed
theorem instr_M (m : M P) (t : σ × Nat) :
    ((M.eval (instr sem quit) (quit' quit) m t).1, (M.eval (instr sem quit) (quit' quit) m t).2.1) = M.eval sem quit m t.1 :=
  have := sim_M (instr sem quit) (quit' quit) sem quit (fun _ => True) (fun t s => t.1 = s)
    (fun _ _ h => h ▸ rfl) (fun _ _ _ _ h => h ▸ ⟨rfl, rfl⟩) m (M.allP_true m) t t.1 rfl
  Prod.ext this.1 this.2

theorem instr_and (ms : List (M P)) (t : σ × Nat) :
    ((evalAnd (instr sem quit) (quit' quit) ms t).1, (evalAnd (instr sem quit) (quit' quit) ms t).2.1) = evalAnd sem quit ms t.1 :=
  instr_M sem quit (.and ms) t

theorem instr_or (ms : List (M P)) (t : σ × Nat) :
    ((evalOr (instr sem quit) (quit' quit) ms t).1, (evalOr (instr sem quit) (quit' quit) ms t).2.1) = evalOr sem quit ms t.1 :=
  instr_M sem quit (.or ms) t

theorem instr_list (ms : List (M P)) (rc : Bool) (t : σ × Nat) :
    ((evalList (instr sem quit) (quit' quit) ms rc t).1, (evalList (instr sem quit) (quit' quit) ms rc t).2.1) = evalList sem quit ms rc t.1 :=
  match ms with
  | [] => rfl
  | m :: ms => instr_M sem quit (.list (m :: ms)) t

end FuModel.Find.Expr
