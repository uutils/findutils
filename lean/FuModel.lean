-- Root of the `FuModel` library: the property modules, and through them the models,
-- specifications and proofs.
import FuModel.Props.C01
import FuModel.Props.C02
import FuModel.Props.C03
import FuModel.Props.C04
import FuModel.Props.C05
import FuModel.Props.C06
import FuModel.Props.C07
import FuModel.Props.C08
import FuModel.Props.C09
import FuModel.Props.C10
import FuModel.Props.C11
import FuModel.Props.C12
import FuModel.Props.C13
import FuModel.Props.C14
import FuModel.Props.C15
import FuModel.Props.C16
import FuModel.Props.C17
import FuModel.Props.C18
import FuModel.Props.C19
import FuModel.Props.C20
